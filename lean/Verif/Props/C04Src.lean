/-
C04, source tie: the regenerated control skeleton of `(*Manager).UpdatesSince` has the shape the
model (`Verif/Model/Chain.lean: nextUpd, updatesSince`) transcribes: the loop runs while the
subscriber is not at the tip and fewer than `maxBlocks` updates (reverts and applies together)
were collected; one revert when off the best chain, else one apply of the next best block;
nothing is written.
-/
import Verif.Extracted.ChainSkel

namespace Verif.C04Src
open Verif.Skel Verif.Extracted

theorem src_updatesSince_balanced : balanced skel_UpdatesSince 0 = true := by decide +kernel

def isMainLoop : Tok → Bool
  | .loop ["index", "m.tipState.Index", "len()", "len()", "maxBlocks"] ["!=", "&&", "+", "<"] => true
  | _ => false

/-- the only loop: `for index != m.tipState.Index && len(rus)+len(aus) < maxBlocks` -/
theorem src_updatesSince_loop_bound :
    (skel_UpdatesSince.filter (fun t => match t with | .loop .. => true | _ => false)).length = 1 ∧
    occurs isMainLoop skel_UpdatesSince = true := by decide +kernel

def isOffBestTest : Tok → Bool
  | .ifc ["closure1()", "index"] ["!"] => true
  | _ => false

/-- off the best chain: one `RevertBlock`; on it: one `ApplyBlock` (of a block looked up with
`BestIndex`); both inside the loop -/
theorem src_updatesSince_branches :
    guardedBy (isCall "consensus.RevertBlock") isOffBestTest skel_UpdatesSince = true ∧
    inElseOf (isCall "consensus.ApplyBlock") isOffBestTest skel_UpdatesSince = true ∧
    guardedBy (isCall "consensus.RevertBlock") isMainLoop skel_UpdatesSince = true ∧
    guardedBy (isCall "consensus.ApplyBlock") isMainLoop skel_UpdatesSince = true ∧
    (callNames skel_UpdatesSince).count "consensus.RevertBlock" = 1 ∧
    (callNames skel_UpdatesSince).count "consensus.ApplyBlock" = 1 := by decide +kernel

/-- every failure returns no updates at all (`nil, nil, err`): a partial list is never returned
together with an error -/
theorem src_updatesSince_errors_return_nothing :
    (skel_UpdatesSince.filter (fun t => match t with | .ret (_ :: _ :: _) => true | _ => false)).all
      (· == .ret ["nil", "nil", "E"]) = true := by decide +kernel

/-- read-only: no store write, no assignment to a manager field -/
theorem src_updatesSince_readonly :
    occurs isStoreWrite skel_UpdatesSince = false ∧ occurs isSet skel_UpdatesSince = false ∧
    occurs (isCall "m.reorgTo") skel_UpdatesSince = false := by decide +kernel

/-- held under the manager's lock for its whole duration -/
theorem src_updatesSince_locked :
    matchPrefix [isCall "m.mu.Lock", (· == .defer), isCall "m.mu.Unlock"] skel_UpdatesSince = true ∧
    (callNames skel_UpdatesSince).count "m.mu.Unlock" = 1 := by decide +kernel

/-- listeners of `AddBlocks` run with the lock released (so that they may call back into the
manager, e.g. `UpdatesSince`), and the lock is re-taken before returning -/
theorem src_listeners_called_unlocked :
    hasInfix [isCall "m.mu.Unlock", (· == .loop ["range", "fns"] []), isCall "fn", (· == .done), isCall "m.mu.Lock"]
      skel_AddBlocks = true ∧
    hasInfix [isCall "m.mu.Unlock", (· == .loop ["range", "fns"] []), isCall "fn", (· == .done), isCall "m.mu.Lock"]
      skel_AddValidatedV2Blocks = true := by decide +kernel

/-- the update stream replays STORED supplements: `applyTip` records a first-applied block
(`AddBlock`) only after the configured order of its expiring contracts has been imposed on the
supplement (`overwriteExpirations`), so the stored supplement is the one the block was applied with,
and it is the same call in both branches (seeded C04-r12m1 stores the block before the reordering:
with `WithExpiringContractOrder` the missed-proof outputs of the replayed update get permuted leaf
indices) -/
theorem src_applyTip_stores_the_supplement_it_applies :
    firstBefore (isCall "m.overwriteExpirations") (isCall "m.store.AddBlock") skel_applyTip = true ∧
    firstBefore (isCall "m.overwriteExpirations") (isCall "consensus.ApplyBlock") skel_applyTip = true ∧
    (callNames skel_applyTip).count "m.overwriteExpirations" = 2 ∧
    (callNames skel_applyTip).count "m.store.AddBlock" = 1 := by decide +kernel

end Verif.C04Src
