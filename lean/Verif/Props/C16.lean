/-
C16 — contract formation / renewal / refresh yields a confirmable contract or leaves no trace.

Property theorems only.  The model (`Model/Formation.lean`) runs the renter's and the host's
steps of one exchange under exactly one fault; the theorems are quantified over **every** RPC,
every environment (basis relation, parents), **every** fault point — each message lost or the
renter cancelling while it is in flight, the dial failing, each fallible call of either side
failing, each check tripped by a corrupted message — and over **any number** of attempts in a
row.  The fault space is finite, so the per-attempt statements are decided by evaluating the
model on the complete enumeration (`forallAttempts`, kernel evaluation, no `native_decide`) and
then hold for an arbitrary attempt by `forallAttempts_iff`; the statements about sequences are
by induction.

Which code the theorems talk about is **not assumed**: `sourceCfg` is computed from
`Extracted/FormationFacts.lean`, which `vh srcfacts` regenerates from `rhp/v4/rpc.go` and
`rhp/v4/server.go` on every run (every `return` after `FundV2Transaction` and whether a
`ReleaseInputs` precedes it, the host's deferred release and the position of `broadcast = true`,
the transaction-id comparison, the detachment of the host's inputs).  `source_is_repaired` and
`source_skeleton_ok` are the obligations over those facts; the behaviour itself is tied by the
correspondence check `harness/c16` (call traces of both sides under every fault).
-/
import Verif.Lemmas.Formation
import Verif.Extracted.FormationFacts

namespace Verif.C16
open Verif.Formation
open Verif.Extracted.Formation

/-- every error return after the funding call is preceded by `ReleaseInputs` in its block
(the return guarding the funding call's own error excepted: nothing is reserved then) -/
def renterReleases (fn : RenterFn) : Bool :=
  fn.found && fn.rets.all fun r => !(r.afterFund && r.returnsErr && !r.fundErr) || r.released

/-- the function compares transaction ids and returns the locally built contract -/
def renterBinds (fn : RenterFn) : Bool := fn.found && fn.comparesTxnID && fn.returnsLocalContract

/-- the handler registers the `broadcast`-guarded release of its transaction right after funding,
admits the set to the pool before the contractor sees it, sets `broadcast` once, after contractor
and wallet broadcast, and before the final response -/
def hostDisciplined (h : HostFn) : Bool :=
  h.found && h.fund != 0 && decide (h.fund < h.deferRelease) && h.returnsBetweenFundAndDefer == 0 &&
  h.deferGuarded && h.deferReleasesTxn && decide (h.deferRelease < h.poolAdd) &&
  decide (h.poolAdd < h.record) && decide (h.record < h.walletBroadcast) &&
  decide (h.walletBroadcast < h.setBroadcast) && decide (h.setBroadcast < h.finalWrite) &&
  h.broadcastAssignments == 1

/-- the configuration of the model the current source corresponds to -/
def sourceCfg : Cfg where
  releaseOnDial := renterReleases renterForm && renterReleases renterRenew && renterReleases renterRefresh
  keepHostInputs := !hostForm.detachesHostInputs && !hostRenew.detachesHostInputs && !hostRefresh.detachesHostInputs
  bindFinal := renterBinds renterForm && renterBinds renterRenew && renterBinds renterRefresh

/-- obligation over the regenerated facts: the three host handlers have the release skeleton the
model's `hostDefers` / `script` assume -/
theorem source_skeleton_ok :
    hostDisciplined hostForm = true ∧ hostDisciplined hostRenew = true ∧ hostDisciplined hostRefresh = true := by
  decide

/-- obligation over the regenerated facts: the source is the repaired code -/
theorem source_is_repaired : sourceCfg = Cfg.fixed := by decide

/-! ## one attempt, any fault: the conjuncts of `stateGood`, which `stateGood_fixed` evaluates on
3 RPCs × 12 environments × 41 faults (`Lemmas/Formation.lean`) -/

/-- **success ⇒ agreement**: if the renter's call succeeds then the host has recorded a contract,
it is the one returned to the renter, fully signed, its transaction set was accepted by the
host's pool (before the contractor was told), the host broadcast it and its handler completed. -/
theorem success_agree (rpc : Rpc) (env : Env) (f : Fault) :
    let s := run sourceCfg rpc env f
    s.rOk = true → s.recorded = true ∧ s.same = true ∧ s.signed = true ∧ s.inPool = true ∧
      s.broadcast = true ∧ s.hOk = true :=
  (stateGood_spec (stateGood_of_fixed source_is_repaired rpc env f)).successAgrees

/-- the set is accepted by the pool before the contract is recorded, under every fault -/
theorem pool_before_record (rpc : Rpc) (env : Env) (f : Fault) :
    (run sourceCfg rpc env f).recorded = true → (run sourceCfg rpc env f).inPool = true :=
  (stateGood_spec (stateGood_of_fixed source_is_repaired rpc env f)).poolBeforeRecord

/-- **the host releases**: under every fault, unless the host reached `broadcast = true` (which
it only does with the contract recorded), its wallet holds nothing back afterwards. -/
theorem abort_releases_host (rpc : Rpc) (env : Env) (f : Fault) :
    let s := run sourceCfg rpc env f
    (s.broadcast = false → s.hLocked = false) ∧ (s.broadcast = true → s.recorded = true) :=
  have h := stateGood_spec (stateGood_of_fixed source_is_repaired rpc env f)
  ⟨h.releasesHost, h.broadcastRecorded⟩

/-- **the renter releases**: under every fault, a failed call leaves nothing reserved. -/
theorem abort_releases_renter (rpc : Rpc) (env : Env) (f : Fault) :
    (run sourceCfg rpc env f).rOk = false → (run sourceCfg rpc env f).rLocked = false :=
  (stateGood_spec (stateGood_of_fixed source_is_repaired rpc env f)).releasesRenter

/-- **no contract on abort** (the provable part): a failed attempt leaves no contract with the
host — unless the fault struck at the final message, after the host had committed, or the
host's own wallet failed to broadcast after the contractor had recorded the contract. -/
theorem no_contract_on_abort_partial (rpc : Rpc) (env : Env) (f : Fault) :
    (run sourceCfg rpc env f).rOk = false → atFinalMessage f = false → hostBroadcastFails f = false →
    (run sourceCfg rpc env f).recorded = false :=
  (stateGood_spec (stateGood_of_fixed source_is_repaired rpc env f)).noContractOnAbort

/-- TARGET (the property as stated): *whenever* the call fails the host has no contract. -/
def C16_no_contract_on_abort_full : Prop :=
  ∀ rpc env f, (run sourceCfg rpc env f).rOk = false → (run sourceCfg rpc env f).recorded = false

/-- … which no implementation of this exchange can have: when the final message is lost the host
has already recorded and broadcast the contract, and the renter — who cannot tell this from an
early failure — reports an error and releases its inputs.  (Known finding
`final-response-lost`; replayed on the real code by `harness/c16`.) -/
theorem C16_no_contract_on_abort_full_false : ¬ C16_no_contract_on_abort_full := by
  intro h
  have := h .form ⟨.same, false, false⟩ (.drop 3)
  rw [source_is_repaired] at this
  revert this
  decide +kernel

/-- the same window for a host-local fault (known finding
`host-local-failure-after-pool-accept:broadcast`) -/
theorem broadcast_failure_keeps_contract :
    (run sourceCfg .form ⟨.same, false, false⟩ (.hcall .broadcast)).recorded = true ∧
    (run sourceCfg .form ⟨.same, false, false⟩ (.hcall .broadcast)).rOk = false := by
  rw [source_is_repaired]; decide +kernel

/-- **repeated failures are bounded**: after any sequence of attempts, with any faults, neither
wallet holds back a single output on account of an attempt that did not go through. -/
theorem repeated_failures_bounded (as : List Attempt) : leaks sourceCfg as = (0, 0) := by
  induction as with
  | nil => rfl
  | cons a as ih =>
    have g := stateGood_spec (stateGood_of_fixed source_is_repaired a.rpc a.env a.fault)
    have hr : (!(run sourceCfg a.rpc a.env a.fault).rOk && (run sourceCfg a.rpc a.env a.fault).rHeld) = false := by
      cases h : (run sourceCfg a.rpc a.env a.fault).rOk
      · simp [St.rHeld, g.releasesRenter h]
      · rfl
    have hh : (!(run sourceCfg a.rpc a.env a.fault).recorded && (run sourceCfg a.rpc a.env a.fault).hHeld) = false := by
      cases h : (run sourceCfg a.rpc a.env a.fault).broadcast
      · simp [St.hHeld, g.releasesHost h]
      · simp [g.broadcastRecorded h]
    simp only [leaks, ih, hr, hh]
    rfl

/-! ## the pinned code did not have the property (witnesses; each was replayed on the real code) -/

/-- finding C16/renter-inputs-not-released: in the pinned code every failed dial of a renewal
leaks one reservation — `n` failed attempts hold back `n` outputs. -/
theorem pinned_dial_leaks (n : Nat) (env : Env) :
    leaks Cfg.pinned (List.replicate n ⟨.renew, env, .dial⟩) = (n, 0) := by
  have h : leaks Cfg.pinned [⟨.renew, env, .dial⟩] = (1, 0) := by
    obtain ⟨a, c, d⟩ := env
    cases a <;> cases c <;> cases d <;> decide +kernel
  rw [leaks_replicate h, Nat.mul_one, Nat.mul_zero]

/-- finding C16/host-inputs-not-released: in the pinned code a request whose basis the host
cannot rebase from (a renter on a stale fork, or any unknown basis) makes the host keep its own
inputs reserved — `n` such requests hold back `n` outputs of the host. -/
theorem pinned_rebase_failure_leaks (n : Nat) (rpc : Rpc) :
    leaks Cfg.pinned (List.replicate n ⟨rpc, ⟨.unknown, false, false⟩, .none⟩) = (0, n) := by
  have h : leaks Cfg.pinned [⟨rpc, ⟨.unknown, false, false⟩, .none⟩] = (0, 1) := by
    cases rpc <;> decide +kernel
  rw [leaks_replicate h, Nat.mul_one, Nat.mul_zero]

/-- finding C16/success-different-contract: the pinned renew/refresh returned the host's copy of
the new contract after checking the host's signatures over the locally built one. -/
theorem pinned_returns_host_copy :
    (run Cfg.pinned .renew ⟨.same, false, false⟩ .finalContractAltered).rOk = true ∧
    (run Cfg.pinned .renew ⟨.same, false, false⟩ .finalContractAltered).same = false ∧
    (run Cfg.pinned .refresh ⟨.same, false, false⟩ .finalContractUnsigned).signed = false := by
  decide +kernel

/-- non-vacuity: the honest exchange succeeds (in every environment whose basis the host knows)
and a lost request fails cleanly. -/
example : (run Cfg.fixed .renew ⟨.behind, false, true⟩ .none).rOk = true ∧
    (run Cfg.fixed .renew ⟨.behind, false, true⟩ .none).hTrace =
      [.lock, .element, .fund, .updateInputs, .sign, .addParents, .txset, .addPool, .record, .broadcast, .unlock] ∧
    (run Cfg.fixed .form ⟨.same, false, false⟩ (.drop 0)).rTrace = [.fund, .txset, .release] := by
  decide +kernel

end Verif.C16
