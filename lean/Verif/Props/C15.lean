/-
C15 — accounts and pools are a conserved ledger; service is paid before delivery.

Property theorems only.  Model: `Verif/Model/Rhp.lean` (handlers of `/repo/rhp/v4/server.go`, accounts,
pools, attachments and `DebitAccount` exactly as `/repo/testutil/host.go`); lemmas:
`Verif/Lemmas/Rhp.lean`.  Signatures are ideal; currency is `Nat` (so "never negative" is stated
as: every subtraction the code performs is exact — the books balance).  Tied to the real code by
`harness/c15` (balances at, just below and just above every cost, own balance and pools in
attachment order; every replenish/fund/attach/detach variant; random histories).
-/
import Verif.Lemmas.Rhp
import Verif.Extracted.RhpHostFacts

namespace Verif.C15
open Verif.Rhp

/-- every handler of every request either leaves all balances alone or ends in a credit / debit -/
theorem balances_move_only_by_credit_or_debit (h : Host) (r : Req) :
    (match (Rhp.decide h r).eff with
     | .credit _ _ _ _ | .debit _ _ | .debitStore _ _ _ => True
     | _ => (step h r).1.accounts = h.accounts ∧ (step h r).1.pools = h.pools) := by
  simp only [step]
  cases he : (Rhp.decide h r).eff with
  | revise cid c roots =>
    simp only [apply]
    split <;> exact ⟨rfl, rfl⟩
  | credit _ _ _ _ | debit _ _ | debitStore _ _ _ => trivial
  | _ => exact ⟨rfl, rfl⟩

/-- **credits_backed**: whenever a handler credits accounts or pools, the same call persists a
revision of a revisable contract that (i) is signed by the contract's renter key over exactly that
revision, (ii) lowers the renter payout by exactly the deposited total and raises the host payout
by the same amount, with a higher revision number — and every balance grows by exactly the
deposits naming it -/
theorem credits_backed (h : Host) (r : Req) (pool : Bool) (cid : Nat) (c : Contract) (ds : List (Nat × Nat))
    (he : (Rhp.decide h r).eff = .credit pool cid c ds) :
    ∃ cs, h.contracts cid = some cs ∧ revisable h cs = true ∧ RevStep cs.c c (depositTotal ds) ∧
      (step h r).1.contracts cid = some { cs with c := c } ∧
      (if pool then
         (∀ a, poolBal (step h r).1.pools a = poolBal h.pools a + depositTo a ds) ∧ (step h r).1.accounts = h.accounts
       else
         (∀ a, (step h r).1.accounts a = h.accounts a + depositTo a ds) ∧ (step h r).1.pools = h.pools) := by
  have ho := decide_effectOk h r
  rw [he] at ho
  obtain ⟨cs, hc, hr, hs, -⟩ := ho
  refine ⟨cs, hc, hr, hs, ?_⟩
  simp only [step, he, apply, hc]
  cases pool
  · exact ⟨upd_same _ _ _, creditAccounts_apply ds h.accounts, rfl⟩
  · exact ⟨upd_same _ _ _, creditPools_apply ds h.pools, rfl⟩

/-- an account named several times in one fund batch is credited every one of its entries -/
theorem fund_same_account_twice_credits_both (acc : Nat → Nat) (a x y : Nat) :
    creditAccounts acc [(a, x), (a, y)] a = acc a + x + y := by
  rw [creditAccounts_apply]
  simp [depositTo]
  omega

/-- crediting from a snapshot of the balances (every new balance computed from the balance before
the batch, then stored) is a different function: the later entry overwrites the earlier one and the
account receives less than the revision moved -/
def creditFromSnapshot (acc : Nat → Nat) (ds : List (Nat × Nat)) : Nat → Nat :=
  ds.foldl (fun f d => upd f d.1 (acc d.1 + d.2)) acc

theorem snapshot_credit_loses_a_deposit :
    ∃ (a x y : Nat), creditFromSnapshot (fun _ => 0) [(a, x), (a, y)] a < depositTotal [(a, x), (a, y)] ∧
      creditAccounts (fun _ => 0) [(a, x), (a, y)] a = depositTotal [(a, x), (a, y)] :=
  ⟨7, 5, 3, by decide, by decide⟩

/-- … and the per-account credits add up to the total the revision moved (one-to-one matching) -/
theorem credits_sum_to_transfer (ds : List (Nat × Nat)) (keys : List Nat) (hn : keys.Nodup)
    (hk : ∀ d ∈ ds, d.1 ∈ keys) : (keys.map fun a => depositTo a ds).sum = depositTotal ds :=
  depositTo_sum ds keys hn hk

/-- attachment lists are duplicate-free after any history -/
theorem attachments_nodup (h : Host) (hi : AttInv h) (ops : List Op) : AttInv (run h ops) :=
  run_preserves (fun _ op => stepOp_attInv op) ops hi

/-- **debit_exact**, and with it clause `no_negative` of the property: a successful debit takes
exactly the cost out of the account's own balance plus its attached pools; no subtraction truncates -/
theorem debit_exact (h : Host) (hi : AttInv h) (a cost : Nat) (hc : canDebit h a cost = true) :
    (debit h a cost).accounts a + poolSum (debit h a cost).pools (h.attached a) + cost
      = h.accounts a + poolSum h.pools (h.attached a) :=
  debit_conserves h a cost (hi a) hc

/-- own balance first … -/
theorem debit_own_balance_first (h : Host) (a cost : Nat) :
    (debit h a cost).accounts a = h.accounts a - min (h.accounts a) cost ∧
    (h.accounts a < cost → (debit h a cost).accounts a = 0) ∧
    (cost ≤ h.accounts a → (debit h a cost).pools = h.pools) := by
  refine ⟨upd_same _ _ _, fun hlt => ?_, fun hle => ?_⟩
  · show upd h.accounts a _ a = 0
    rw [upd_same]; omega
  · show drainPools h.pools (h.attached a) (cost - min (h.accounts a) cost) = h.pools
    rw [show cost - min (h.accounts a) cost = 0 by omega]
    exact drainPools_zero _ _

/-- … then the pools in attachment order: a pool loses money only after every pool attached
before it has been emptied -/
theorem debit_pools_in_attachment_order (h : Host) (hi : AttInv h) (a cost : Nat)
    (l1 : List Nat) (p : Nat) (l2 : List Nat) (hsplit : h.attached a = l1 ++ p :: l2)
    (hlt : poolBal (debit h a cost).pools p < poolBal h.pools p) :
    ∀ q ∈ l1, poolBal (debit h a cost).pools q = 0 :=
  drainPools_order h.pools (h.attached a) _ (hi a) l1 p l2 hsplit hlt

/-- nobody else's money moves -/
theorem debit_touches_nothing_else (h : Host) (a cost : Nat) :
    (∀ b, b ≠ a → (debit h a cost).accounts b = h.accounts b) ∧
    (∀ p, p ∉ h.attached a → (debit h a cost).pools p = h.pools p) ∧
    (∀ p, poolBal (debit h a cost).pools p ≤ poolBal h.pools p) :=
  ⟨fun _ hb => upd_other _ _ _ _ hb, fun _ hp => drainPools_notin _ _ _ hp, drainPools_le _ _ _⟩

/-- a debit happens only for a read, write or verification, for exactly its priced cost, with
sufficient drawable funds, and the service is then carried out (`ok`) -/
theorem debit_is_priced_service (h : Host) (r : Req) :
    (match (Rhp.decide h r).eff with
     | .debit a cost =>
        (∃ p t root off len, r = .read p t root off len ∧ a = t.account ∧ cost = readCost p.f len ∧ h.sectors root = true) ∨
        (∃ p t root leaf, r = .verify p t root leaf ∧ a = t.account ∧ cost = verifyCost p.f ∧ h.sectors root = true)
     | .debitStore a cost root =>
        ∃ p t len, r = .write p t len (some root) ∧ a = t.account ∧ cost = writeCost p.f len
     | _ => True) ∧
    ((∀ a cost, (Rhp.decide h r).eff = .debit a cost → canDebit h a cost = true ∧ (Rhp.decide h r).out.cls = .ok) ∧
     (∀ a cost root, (Rhp.decide h r).eff = .debitStore a cost root →
        canDebit h a cost = true ∧ (Rhp.decide h r).out.cls = .ok ∧ (step h r).1.sectors root = true)) := by
  have hgood := decide_good h r
  have hok := decide_effectOk h r
  constructor
  · obtain hf | hj := decide_justified h r
    · rw [hf.eff]; trivial
    cases he : (Rhp.decide h r).eff with
    | debit a cost =>
      rw [he] at hj
      exact hj.2
    | debitStore a cost root =>
      rw [he] at hj
      exact hj.2
    | _ => trivial
  · constructor
    · intro a cost he
      rw [he] at hok
      exact ⟨hok, hgood.resolve_left (by rw [he]; nofun)⟩
    · intro a cost root he
      rw [he] at hok
      exact ⟨hok, hgood.resolve_left (by rw [he]; nofun), by simp [step, he, apply, upd_same]⟩

theorem refused_noop {h : Host} {r : Req} (hn : ¬ Accepted h r (Rhp.decide h r)) :
    (step h r).1 = h ∧ (step h r).2.1.cls ≠ .ok ∧ ∀ e ∈ (step h r).2.2, e.isService = false :=
  have hr := refusal_of_not_accepted hn
  ⟨step_eq_of_eff_none hr.eff, hr.cls, hr.noService⟩

/-- **insufficient_is_noop**: if the drawable funds (own balance, then attached pools in attachment
order) do not cover the priced cost, a read / write / verify delivers nothing (`payment`), touches
the sector store with neither a read nor a store, and leaves every balance — the whole host state —
as it was -/
theorem insufficient_is_noop (h : Host) (p : Prices) (t : Token) :
    (∀ root off len, canDebit h t.account (readCost p.f len) = false →
       (step h (.read p t root off len)).1 = h ∧ (step h (.read p t root off len)).2.1.cls ≠ .ok ∧
       ∀ e ∈ (step h (.read p t root off len)).2.2, e.isService = false) ∧
    (∀ len data, canDebit h t.account (writeCost p.f len) = false →
       (step h (.write p t len data)).1 = h ∧ (step h (.write p t len data)).2.1.cls ≠ .ok ∧
       ∀ e ∈ (step h (.write p t len data)).2.2, e.isService = false) ∧
    (∀ root leaf, canDebit h t.account (verifyCost p.f) = false →
       (step h (.verify p t root leaf)).1 = h ∧ (step h (.verify p t root leaf)).2.1.cls ≠ .ok ∧
       ∀ e ∈ (step h (.verify p t root leaf)).2.2, e.isService = false) := by
  refine ⟨?_, ?_, ?_⟩
  · intro root off len hc
    refine refused_noop ?_
    rintro ⟨-, -, -, -, -, -, -, -, hd, -⟩
    cases hc.symm.trans hd
  · intro len data hc
    refine refused_noop ?_
    rintro ⟨_, -, -, -, -, -, -, hd, -⟩
    cases hc.symm.trans hd
  · intro root leaf hc
    refine refused_noop ?_
    rintro ⟨-, -, -, -, hd, -⟩
    cases hc.symm.trans hd

/-- **service_after_debit**: in the calls any handler makes for any request, every sector read or
store comes after a successful `DebitAccount` (existence check → debit → read; debit → store) -/
theorem service_after_debit (h : Host) (r : Req) : paidFirst false (step h r).2.2 = true :=
  decide_paidFirst h r

open Verif.Extracted in
/-- the statement order the model transcribes, re-read from `/repo/rhp/v4/server.go` on every run
(`Extracted/RhpHostFacts.lean`): existence check → the single debit → read; the single debit →
store; attach/detach verify every signature before the contractor is called -/
theorem source_order_service :
    (RhpHost.read.found = true ∧ 0 < RhpHost.read.validate ∧ RhpHost.read.validate < RhpHost.read.hasSector ∧
      RhpHost.read.hasSector < RhpHost.read.debit ∧ RhpHost.read.debit < RhpHost.read.service ∧ RhpHost.read.debitCalls = 1) ∧
    (RhpHost.verify.found = true ∧ 0 < RhpHost.verify.validate ∧ RhpHost.verify.validate < RhpHost.verify.hasSector ∧
      RhpHost.verify.hasSector < RhpHost.verify.debit ∧ RhpHost.verify.debit < RhpHost.verify.service ∧ RhpHost.verify.debitCalls = 1) ∧
    (RhpHost.write.found = true ∧ 0 < RhpHost.write.validate ∧ RhpHost.write.validate < RhpHost.write.debit ∧
      RhpHost.write.debit < RhpHost.write.service ∧ RhpHost.write.debitCalls = 1) ∧
    (RhpHost.attach.found = true ∧ 0 < RhpHost.attach.verifySig ∧ RhpHost.attach.verifySig < RhpHost.attach.persist) ∧
    (RhpHost.detach.found = true ∧ 0 < RhpHost.detach.verifySig ∧ RhpHost.detach.verifySig < RhpHost.detach.persist) := by
  decide

open Verif.Extracted in
/-- the replenish handlers check for duplicate accounts before they lock the contract -/
theorem source_order_replenish_guard :
    ∀ hd ∈ [RhpHost.replenishAccounts, RhpHost.replenishPools],
      0 < hd.uniqueAccounts ∧ hd.uniqueAccounts < hd.lock := by
  decide

open Verif.Extracted in
/-- a credit is handed to the contractor only after the renter's signature over the revision has
been verified, and there is exactly one crediting call -/
theorem source_order_credit_after_verification :
    ∀ hd ∈ [RhpHost.fund, RhpHost.replenishAccounts, RhpHost.replenishPools],
      hd.found = true ∧ 0 < hd.verifySig ∧ hd.verifySig < hd.persist ∧ hd.persistCalls = 1 := by
  decide

/-- **replenish_tops_up**: a replenish that answers `ok` names every account (pool) once, brings
each of them up to the target and never beyond (`max balance target`), and touches no other
balance.  The duplicate-free list is a checked guard of the handler, not an assumption. -/
theorem replenish_tops_up (h : Host) (pool : Bool) (cid : Nat) (accounts : List Nat) (target : Nat) (chal : Sig)
    (second : Option Sig)
    (hok : (step h (.replenish pool cid accounts target chal second)).2.1.cls = .ok) :
    accounts.Nodup ∧
    (if pool then
       (∀ a, poolBal (step h (.replenish pool cid accounts target chal second)).1.pools a
          = if a ∈ accounts then max (poolBal h.pools a) target else poolBal h.pools a) ∧
       (step h (.replenish pool cid accounts target chal second)).1.accounts = h.accounts
     else
       (∀ a, (step h (.replenish pool cid accounts target chal second)).1.accounts a
          = if a ∈ accounts then max (h.accounts a) target else h.accounts a) ∧
       (step h (.replenish pool cid accounts target chal second)).1.pools = h.pools) := by
  obtain hr | ⟨cs, -, -, hdup, hc, -, -, -, ⟨hzero, hd⟩ | ⟨-, b', rsig, -, -, -, -, hd⟩⟩ :=
    decide_spec h (.replenish pool cid accounts target chal second)
  · exact absurd hok hr.cls
  · -- nothing needed topping up
    refine ⟨hasDup_false hdup, ?_⟩
    have hz := replenish_zero_total hzero
    rw [step_eq_of_eff_none (by rw [hd])]
    cases pool
    · refine ⟨fun a => ?_, rfl⟩
      split
      · rename_i ha; have := hz a ha; simp only [Bool.false_eq_true, if_false] at this; omega
      · rfl
    · refine ⟨fun a => ?_, rfl⟩
      split
      · rename_i ha; have := hz a ha; simp only [if_true] at this; omega
      · rfl
  · have hnd := hasDup_false hdup
    refine ⟨hnd, ?_⟩
    cases pool
    · simp only [step, hd, apply, hc, Bool.false_eq_true, if_false]
      refine ⟨fun a => ?_, trivial⟩
      rw [creditAccounts_apply, depositTo_replenish _ _ _ hnd]
      split <;> omega
    · simp only [step, hd, apply, hc, if_true]
      refine ⟨fun a => ?_, trivial⟩
      rw [creditPools_apply, depositTo_replenish _ _ _ hnd]
      split <;> omega

/-- the pinned code computed every deposit from the balances read before the RPC and had no
duplicate check: with the same account twice the balance ends above the target.  (What the
handler would do without its guard, on a concrete request.) -/
theorem replenish_without_guard_exceeds_target :
    ∃ (bal : Nat → Nat) (target a : Nat),
      creditAccounts bal (replenishDeposits bal target [a, a]) a > max (bal a) target :=
  ⟨fun _ => 0, 1, 7, by decide⟩

theorem linksValid_unexpired {h : Host} {l : List Link} (hv : linksValid h l = true) {a : Link} (ha : a ∈ l) :
    ¬ a.validUntil < h.now := by
  simp only [linksValid, Bool.and_eq_true] at hv
  have h3 := List.all_eq_true.mp hv.2 a ha
  simp only [Bool.and_eq_true, Bool.not_eq_true', decide_eq_false_iff_not] at h3
  exact h3.1.2

/-- clause `attach_detach_need_sig` of the property: an attach batch takes effect only if *every*
entry carries a signature by its pool's key over exactly (attach, this host, account, pool, expiry),
is unexpired and names an existing pool; otherwise nothing changes -/
theorem attach_needs_pool_signature (h : Host) (l : List Link) :
    ((step h (.attach l)).1 ≠ h →
      ∀ a ∈ l, a.sig = .mk a.pool (.attach h.hostKey a.account a.pool a.validUntil) ∧
               ¬ (a.validUntil < h.now) ∧ (h.pools a.pool).isSome = true) ∧
    ((∃ a ∈ l, a.sig ≠ .mk a.pool (.attach h.hostKey a.account a.pool a.validUntil)) → (step h (.attach l)).1 = h) := by
  constructor
  · intro hne a ha
    obtain ⟨hv, hs, hp, -⟩ := accepted_of_step_ne hne
    exact ⟨(verify_iff _ _ _).mp (List.all_eq_true.mp hs a ha), linksValid_unexpired hv ha, List.all_eq_true.mp hp a ha⟩
  · rintro ⟨a, ha, hbad⟩
    refine step_eq_of_not_accepted ?_
    rintro ⟨-, hs, -⟩
    exact hbad ((verify_iff _ _ _).mp (List.all_eq_true.mp hs a ha))

/-- … and a detach batch only if every entry is signed by the pool's or the account's key over
exactly (detach, this host, account, pool, expiry) — an attach signature does not detach -/
theorem detach_needs_signature (h : Host) (l : List Link) :
    (step h (.detach l)).1 ≠ h →
      ∀ d ∈ l, (d.sig = .mk d.pool (.detach h.hostKey d.account d.pool d.validUntil) ∨
                d.sig = .mk d.account (.detach h.hostKey d.account d.pool d.validUntil)) ∧
               ¬ (d.validUntil < h.now) := by
  intro hne d hd
  obtain ⟨hv, hs, -⟩ := accepted_of_step_ne hne
  have h1 := List.all_eq_true.mp hs d hd
  simp only [Bool.or_eq_true, verify_iff] at h1
  exact ⟨h1, linksValid_unexpired hv hd⟩

/-! ### non-vacuity -/

namespace Example
def pf : PriceFields := { contractPrice := 5, collateral := 2, storage := 1, ingress := 1, egress := 3,
                          freeSector := 7, tipHeight := 10, validUntil := 2000 }
def pr : Prices := { f := pf, sig := .mk 1 (.prices pf) }
def b0 : Body := { rev := 0, renterOut := 10 ^ 15, hostOut := 10 ^ 15 + 5, missedHost := 10 ^ 15, totalColl := 10 ^ 15,
                   filesize := 0, capacity := 0, proofHeight := 100, expHeight := 244, renterKey := 3, hostKey := 1,
                   root := .zero }
def c0 : Contract := { body := b0, renterSig := .mk 3 (.contract b0), hostSig := .mk 1 (.contract b0) }
def sign (h : Host) (cid : Nat) (amount : Nat) : Sig :=
  match h.contracts cid with
  | some cs => match reviseFund cs.c.body amount with
    | some b => .mk cs.c.body.renterKey (.contract b)
    | none => .bad
  | none => .bad
def replChal (h : Host) (cid : Nat) (accts : List Nat) (target : Nat) : Sig :=
  match h.contracts cid with
  | some cs => .mk cs.c.body.renterKey (.replChallenge accts target cid cs.c.body.rev)
  | none => .bad
def tok (a : Nat) : Token := { hostKey := 1, account := a, validUntil := 2000, sig := .mk a (.token 1 a 2000) }
/-- read cost of 64 bytes at egress 3 = 3 * 4096 = 12288 -/
def cost : Nat := readCost pf 64
def h0 : Host := run (Host.init 1 1000 10) [.form 1 c0, .sector 11]
-- fund account 10 with cost-1, pool 20 gets 1 by a pool replenish, attach 20 to 10
def h1 : Host := (step h0 (.fund 1 [(10, cost - 1)] (sign h0 1 (cost - 1)))).1
def h2 : Host := (step h1 (.replenish true 1 [20] 1 (replChal h1 1 [20] 1) (some (sign h1 1 1)))).1
def h3 : Host := (step h2 (.attach [{ account := 10, pool := 20, validUntil := 2000, sig := .mk 20 (.attach 1 10 20 2000) }])).1

example : h1.accounts 10 = cost - 1 := by decide
example : (step h1 (.read pr (tok 10) 11 0 64)).2.1.cls = .payment := by decide   -- one short: refused
example : (step h1 (.read pr (tok 10) 11 0 64)).1.accounts 10 = cost - 1 := by decide
example : poolBal h2.pools 20 = 1 := by decide
example : h3.attached 10 = [20] := by decide
example : (step h3 (.read pr (tok 10) 11 0 64)).2.1 = { cls := .ok, vals := [64] } := by decide   -- exactly enough
example : (step h3 (.read pr (tok 10) 11 0 64)).1.accounts 10 = 0 := by decide
example : poolBal (step h3 (.read pr (tok 10) 11 0 64)).1.pools 20 = 0 := by decide
example : (step h3 (.read pr (tok 10) 11 0 64)).2.2 = [.has 11, .debit 10 cost true, .read 11 0 64] := by decide
-- the same account twice is refused
example : (step h3 (.replenish false 1 [10, 10] 5 (replChal h3 1 [10, 10] 5) (some (sign h3 1 10)))).2.1.cls = .badreq := by decide
-- an attach signed by the account instead of the pool changes nothing
example : (step h2 (.attach [{ account := 10, pool := 20, validUntil := 2000, sig := .mk 10 (.attach 1 10 20 2000) }])).1.attached 10 = [] := by
  decide
end Example

end Verif.C15
