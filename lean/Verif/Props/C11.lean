/-
C11 — a Byzantine peer cannot corrupt, crash or stall an honest syncer's chain.

Property theorems only (helper lemmas: `Lemmas/Sync.lean`, `Lemmas/SyncChain.lean`, model:
`Model/Sync.lean`).  The theorems are about the **decision logic** of the syncer (`syncLoop`,
`Peer.SendHeaders`, `Peer.SendCheckpoint`, `parallelSync`'s `workFn`/finisher, the relay handlers) composed with a
minimal abstract chain manager, for *any* peer behaviour: a behaviour is a list of events
(`Ev`), each carrying whatever the peer chose to answer; `Ev.batch` reaches the manager with an
arbitrary request, so every interleaving, duplication and re-queueing of requests of any number
of peers is such a list.  Consensus (what `ValidateHeader/ValidateOrphan/ValidateBlock` say
about a block on its own ancestry) and hash injectivity are parameters (`Blk` attributes,
`HashBinds`).  Network timing, timeouts and resource exhaustion are not modelled; that the
handler goroutine survives a panic is a fact regenerated from the source
(`handler_panics_recovered`); that the node still reaches the honest peers' heaviest chain
*within a deadline* is checked on the implementation only.
-/
import Verif.Lemmas.Sync
import Verif.Lemmas.SyncChain
import Verif.Props.C01
import Verif.Extracted.SyncerFacts

namespace Verif.C11
open Verif.Sync

/-- **below the require height** a batch reaches the manager only through the fully
validating `AddBlocks` and only if the delivered blocks carry exactly the IDs of the validated
headers of that request. -/
theorem gate_v1_sound (U : Univ) (cfg : Cfg) (q : Req) (r : BResp) (bs : List Nat)
    (h : gateBatch U cfg q r = .ok bs false) :
    q.baseHeight < cfg.require ∧ r.blocks = some bs ∧
      bs.map (fun b => (U b).cid) = q.hdrs.map (fun b => (U b).cid) := by
  obtain ⟨hh, bs', hbl, _, hids, e⟩ | ⟨_, cp, _, _, _, _, _, _, _, bs', _, _, _, e⟩ :=
    (gateBatch_eq (y := .ok bs false) nofun).mp h
  · cases e
    exact ⟨hh, hbl, hids⟩
  · split at e <;> cases e

/-- a **truncated** (or over-long) answer — e.g. a genuine prefix of the batch, no field
corrupted — never reaches the manager on either path: the request is retried with another peer
(if it were accepted, the next batch would lack its parent and its honest sender would be blamed) -/
theorem truncated_batch_not_accepted (U : Univ) (cfg : Cfg) (q : Req) (cp : Option CpResp) (bs : List Nat)
    (hl : bs.length ≠ q.hdrs.length) : gateBatch U cfg q ⟨cp, some bs⟩ = .retry :=
  Classical.byContradiction fun h => by
    obtain ⟨_, bs', e, hl', _⟩ | ⟨_, _, _, _, _, _, _, _, _, bs', e, hl', _⟩ := (gateBatch_eq h).mp rfl
    all_goals
      cases e
      exact hl hl'

/-- **at or above the require height** a batch reaches `AddValidatedV2Blocks` only if the
checkpoint answer is a v2 block with one miner payout, carrying the requested ID, whose
commitment matches the supplied state, the right number of blocks ending in the request's tip
was delivered, and every block passed `ValidateBlock` on the state chain derived from the
checkpoint. -/
theorem gate_v2_sound (U : Univ) (cfg : Cfg) (q : Req) (r : BResp) (bs : List Nat)
    (h : gateBatch U cfg q r = .ok bs true) :
    cfg.require ≤ q.baseHeight ∧ ∃ cp, r.cp = some cp ∧ cp.isV2 = true ∧ cp.onePayout = true ∧ cp.noV1 = true ∧
      sameId U cp.blk q.base = true ∧ cp.commitOk = true ∧ (U cp.blk).orphan = true ∧ r.blocks = some bs ∧
      bs.length = q.hdrs.length ∧ sameId U (bs.getLastD 0) (q.hdrs.getLastD 0) = true ∧
      validateChain U cp.genuine cp.blk bs = true :=
  gateBatch_ok_true cfg q r bs h

/-- (repaired defect) a checkpoint answer whose block carries a v1 transaction never gets as far
as `ApplyBlock` (which would index the empty v1 supplement): the request is retried -/
theorem checkpoint_with_v1_txns_rejected (U : Univ) (cfg : Cfg) (q : Req) (cp : CpResp) (bl : Option (List Nat))
    (hh : cfg.require ≤ q.baseHeight) (hv1 : cp.noV1 = false) :
    gateBatch U cfg q ⟨some cp, bl⟩ = .retry :=
  Classical.byContradiction fun h => by
    obtain ⟨hlt, _⟩ | ⟨_, cp', e, _, _, h3, _⟩ := (gateBatch_eq h).mp rfl
    · exact Nat.not_lt.mpr hh hlt
    · cases e
      rw [hv1] at h3
      cases h3

/-- … and that is exactly the manager's pre-validation contract: under hash injectivity every
block handed to `AddValidatedV2Blocks` is valid whenever its ancestry is. -/
theorem gate_v2_prevalidated (U : Univ) (wf : WF U) (hb : HashBinds U) (cfg : Cfg) (q : Req) (r : BResp)
    (bs : List Nat) (h : gateBatch U cfg q r = .ok bs true) :
    ∀ b ∈ bs, ValidTo U (U b).parent → (U b).body = true :=
  gateBatch_pre wf hb cfg q r bs h

/-- without that hypothesis the gate is **not** sound: a state that is not the genuine one lets
an invalid block through (the witness: block 1 is invalid, the checkpoint answer claims a
matching commitment for a bogus state). So `HashBinds` is not decoration. -/
theorem gate_v2_needs_binding :
    ∃ (U : Univ) (cfg : Cfg) (q : Req) (r : BResp),
      gateBatch U cfg q r = .ok [1] true ∧ (U 1).body = false := by
  refine ⟨fun i => if i = 0 then ⟨0, 0, 0, 1, 5, true, true, true, true, true, false⟩
                    else ⟨0, 1, 1, 2, 5, true, true, true, false, true, false⟩,
    ⟨0, 100⟩, ⟨0, 0, [1]⟩, ⟨some ⟨0, true, true, true, false, true⟩, some [1]⟩, by decide, by decide⟩

/-- **relay gates**: a relayed header never touches the chain; a relayed outline reaches the
manager only if its parent is known, it attaches to the tip, it has sufficient work and its
missing transactions were completed; then it goes through the fully validating `AddBlocks`. -/
theorem relay_gates (U : Univ) (n : Node) (b : Nat) (m : Missing) :
    (stepOutline U n b m).2 = .apply →
      n.known.contains (U b).parent = true ∧ (U b).pow = true ∧
      (U b).parent = (U n.tip).cid ∧ m ≠ .fetchFail ∧ m ≠ .wrong ∧
      (stepOutline U n b m).1 = (addBlocks U n [b]).1 ∧ (addBlocks U n [b]).2 = none := by
  fun_cases stepOutline U n b m
  case case7 h1 _ h3 h4 _ hf hw =>
    intro h
    refine ⟨by simpa using h1, by simpa using h4, by simpa using h3, hf, hw, rfl, ?_⟩
    revert h
    cases (addBlocks U n [b]).2 <;> simp
  all_goals exact nofun

/-- wrong "missing" transactions, insufficient work, or a block the manager rejects ⇒ `ban` —
for an outline that attaches to the tip (only then is its ID meaningful) -/
theorem relay_outline_bans (U : Univ) (n : Node) (b : Nat) (m : Missing)
    (hp : n.known.contains (U b).parent = true)
    (hnew : (n.supp.contains (U b).parent && n.known.any (sameId U b)) = false)
    (ht : (U b).parent = (U n.tip).cid) :
    ((U b).pow = false → (stepOutline U n b m).2 = .ban) ∧
    ((U b).pow = true → m = .wrong → (stepOutline U n b m).2 = .ban) ∧
    ((U b).pow = true → m ≠ .fetchFail → (addBlocks U n [b]).2.isSome = true →
      (stepOutline U n b m).2 = .ban) := by
  rw [ht] at hp hnew
  refine ⟨?_, ?_, ?_⟩
  · intro h; simp only [stepOutline, ht, hp, hnew, h]; simp
  · intro h1 h3; subst h3; simp only [stepOutline, ht, hp, hnew, h1]; simp
  · intro h1 h3 h4
    cases m <;> simp only [stepOutline, ht, hp, hnew, h1, h4] <;> simp at h3 ⊢

/-- (repaired defect) an outline that does **not** attach to the tip is never answered with a
ban, whatever its recomputed ID looks like: a peer announcing a block of a fork we downloaded
but did not adopt is honest. -/
theorem sidechain_outline_never_banned (U : Univ) (n : Node) (b : Nat) (m : Missing)
    (ht : (U b).parent ≠ (U n.tip).cid) :
    (stepOutline U n b m).2 ≠ .ban ∧ (stepOutline U n b m).1 = n := by
  fun_cases stepOutline U n b m
  case case1 | case2 | case3 => exact ⟨Dec.noConfusion, rfl⟩
  all_goals exact absurd (by simpa using ‹¬((U b).parent != (U n.tip).cid) = true›) ht

theorem relay_header_bans (U : Univ) (cfg : Cfg) (n : Node) (h : Nat)
    (hp : n.known.contains (U h).parent = true) (hnew : n.known.any (sameId U h) = false)
    (hpow : (U h).pow = false) : gateRelayHeader U cfg n h = .ban := by
  simp only [gateRelayHeader, hp, hnew, hpow]; rfl

/-- a header that fails the work test of its (known) parent is banned **whether or not it
attaches to the tip**: the parent's target is header-level data the node holds for every block it
stores, and a header's ID is the header hash itself (unlike an outline's), so the test is
meaningful for a parent that is an earlier block of the best chain or a side-chain block. -/
theorem weak_header_banned_off_tip (U : Univ) (cfg : Cfg) (n : Node) (h : Nat)
    (hp : n.known.contains (U h).parent = true) (hnew : n.known.any (sameId U h) = false)
    (hpow : (U h).pow = false) (_hoff : (U h).parent ≠ (U n.tip).cid) :
    gateRelayHeader U cfg n h = .ban :=
  relay_header_bans U cfg n h hp hnew hpow

/-- (repaired defect) below the require height a valid relayed header that attaches to the tip
flips the peer to unsynced, so the sync loop fetches the (possibly v1) block -/
theorem relay_header_v1_resyncs (U : Univ) (cfg : Cfg) (n : Node) (h : Nat)
    (hp : n.known.contains (U h).parent = true) (hnew : n.known.any (sameId U h) = false)
    (hpow : (U h).pow = true) (ht : (U h).parent = (U n.tip).cid)
    (hv1 : (U n.tip).height + 1 < cfg.require) : gateRelayHeader U cfg n h = .resync := by
  rw [ht] at hp
  simp only [gateRelayHeader, ht, hp, hnew, hpow]; simp [hv1]

/-- **a first-seen memo never suppresses the resync of the relaying peer**: whatever the memo
says, the decision about the peer that relayed a header is the memo-free gate's; the memo only
decides whether the header is passed on. -/
theorem memo_never_suppresses_resync (U : Univ) (cfg : Cfg) (n : Node) (h : Nat) (relayedBefore : Bool) :
    (relayHeaderM U cfg n h relayedBefore).1 = gateRelayHeader U cfg n h := by
  simp only [relayHeaderM, gateRelayHeader, apply_ite Prod.fst]

/-- hence **every** honest announcement, below the require height, of a block on top of our tip
leads to a pull from THAT peer — also when another peer relayed the same header first -/
theorem every_honest_announcement_pulls (U : Univ) (cfg : Cfg) (n : Node) (h : Nat) (relayedBefore : Bool)
    (hp : n.known.contains (U h).parent = true) (hnew : n.known.any (sameId U h) = false)
    (hpow : (U h).pow = true) (ht : (U h).parent = (U n.tip).cid)
    (hv1 : (U n.tip).height + 1 < cfg.require) :
    (relayHeaderM U cfg n h relayedBefore).1 = .resync := by
  rw [memo_never_suppresses_resync]
  exact relay_header_v1_resyncs U cfg n h hp hnew hpow ht hv1

theorem relay_empty_txnset_bans (a v : Bool) : gateRelayTxns true true a v = .ban := rfl

/-- **no invalid block is ever on the best chain**, whatever any number of peers send, in any
order: starting from a state satisfying the invariant (e.g. the genesis state) every block of
the best chain, and all its ancestors, pass `ValidateBlock`. -/
theorem syncer_preserves_validity (U : Univ) (wf : WF U) (hb : HashBinds U) (cfg : Cfg) (n : Node)
    (h : Inv U n) (evs : List Ev) : ∀ b ∈ (run U cfg n evs).best, (U b).body = true :=
  fun b hbm => ((run_inv wf hb cfg evs n h).best b hbm).body wf

theorem syncer_preserves_inv (U : Univ) (wf : WF U) (hb : HashBinds U) (cfg : Cfg) (n : Node)
    (h : Inv U n) (evs : List Ev) : Inv U (run U cfg n evs) :=
  run_inv wf hb cfg evs n h

/-- **the tip's total work never decreases**, under any message sequence (no hypothesis at all:
not even hash injectivity is needed for this one). -/
theorem tip_work_mono (U : Univ) (cfg : Cfg) (n : Node) (evs : List Ev) :
    (U n.tip).work ≤ (U (run U cfg n evs).tip).work :=
  run_kept (work_kept U cfg _) evs n (Nat.le_refl _)

/-- and whenever an event moves the tip, the new tip is *sufficiently* heavier than the old one -/
theorem tip_moves_only_to_heavier (U : Univ) (cfg : Cfg) (n : Node) (q : Req) (r : BResp) :
    (stepBatch U cfg n q r).1.tip = n.tip ∨ heavier U (stepBatch U cfg n q r).1.tip n.tip = true :=
  stepBatch_tip U cfg n q r

/-- **misbehaviour ⇒ ban (1)**: a delivered batch that matches its headers / its checkpoint but
that the manager rejects (an invalid, future or unattached block, a reorg that fails on an
invalid body) is answered with `ban`. -/
theorem rejected_batch_bans (U : Univ) (cfg : Cfg) (n : Node) (q : Req) (r : BResp) (bs : List Nat) (pre : Bool)
    (hg : gateBatch U cfg q r = .ok bs pre)
    (hrej : (if pre then addValidated U n bs else addBlocks U n bs).2.isSome = true) :
    (stepBatch U cfg n q r).2 = .ban := by
  simp only [stepBatch, hg]
  simp [hrej]

/-- **misbehaviour ⇒ ban (2)**: above the require height, a correct checkpoint followed by the
right number of blocks ending in the right tip, one of which fails `ValidateBlock` on the
genuine state chain, is answered with `ban`. -/
theorem invalid_v2_block_bans (U : Univ) (cfg : Cfg) (n : Node) (q : Req) (cp : CpResp) (bs : List Nat)
    (hh : cfg.require ≤ q.baseHeight) (h1 : cp.isV2 = true) (h2 : cp.onePayout = true) (h2' : cp.noV1 = true)
    (h3 : sameId U cp.blk q.base = true) (h4 : cp.commitOk = true) (h4' : (U cp.blk).orphan = true)
    (h5 : bs.length = q.hdrs.length) (h6 : sameId U (bs.getLastD 0) (q.hdrs.getLastD 0) = true)
    (hbad : validateChain U cp.genuine cp.blk bs = false) :
    (stepBatch U cfg n q ⟨some cp, some bs⟩).2 = .ban := by
  have hg : gateBatch U cfg q ⟨some cp, some bs⟩ = .ban :=
    (gateBatch_eq (y := .ban) nofun).mpr (.inr ⟨hh, cp, rfl, h1, h2, h2', h3, h4, h4', bs, rfl, h5, h6, by rw [hbad]; rfl⟩)
  simp only [stepBatch, hg]

/-- **misbehaviour ⇒ ban (3)**: below the require height, blocks that carry the validated
header IDs but contain a block failing `ValidateOrphan` are answered with `ban`, at whatever
position the block sits. -/
theorem invalid_v1_block_bans (U : Univ) (cfg : Cfg) (n : Node) (q : Req) (bs : List Nat)
    (hh : q.baseHeight < cfg.require)
    (hids : bs.map (fun b => (U b).cid) = q.hdrs.map (fun b => (U b).cid))
    (hrej : (addBlocks U n bs).2.isSome = true) :
    (stepBatch U cfg n q ⟨none, some bs⟩).2 = .ban := by
  have hl : bs.length = q.hdrs.length := by simpa using congrArg List.length hids
  have hg : gateBatch U cfg q ⟨none, some bs⟩ = .ok bs false :=
    (gateBatch_eq (y := .ok bs false) nofun).mpr (.inl ⟨hh, bs, rfl, hl, hids, rfl⟩)
  exact rejected_batch_bans U cfg n q _ bs false hg (by simpa using hrej)

/-- what is *not* ban-worthy by the code's own policy: headers that fail validation only drop
the peer, blocks that do not match the headers or a checkpoint that does not bind are retried
with another peer. -/
theorem invalid_headers_only_drop (U : Univ) (cfg : Cfg) (n : Node) (base : Nat) (rest l : List Nat) (rem : Nat)
    (rs : List HResp) (bs : List BResp) (hh : history n.best = base :: rest)
    (hbad : headersOk U base l = false) :
    (stepSync U cfg n (.hdrs l rem :: rs) bs).2.dec = .drop ∧ (stepSync U cfg n (.hdrs l rem :: rs) bs).1 = n := by
  unfold stepSync
  rw [hh]
  simp only [headerPhase, hbad]
  simp

/-! ### the same gates in front of the chain-manager model M2 (`Model/Chain.lean`, C01)

`SyncC.stepC` feeds `Chain.addBlocks` below the require height and `Chain.addValidatedV2` at/above
it.  `Chain.Inv` (C01) is **not** an invariant of that system under an arbitrary peer — see
`chain_inv_not_preserved` — and not even between two requests of an honest round: a request below
the require height that is not heavier is stored without being applied, and the next one is
stored *with* supplements on top of it.  The invariant that does hold for every peer behaviour is
`SyncC.InvW` (supplement ⇒ valid *relative to the ancestry*; best chain fully valid). -/

section OnChainModel
open Verif.SyncC

/-- **any peer behaviour, on the chain-manager model**: the weak invariant is preserved by every
list of events (sync rounds with arbitrary answers, single requests with arbitrary request data
in any order, relays), from any state satisfying it — in particular from `Chain.Mgr.init`. -/
theorem chain_syncer_preserves_invW (U : Univ) (nv : NoVariants U) (hU : WFH (toChain U)) (hb : HashBindsC U)
    (cfg : Cfg) (m : Chain.Mgr) (h : InvW (toChain U) m) (evs : List Ev) :
    InvW (toChain U) (runC U cfg m evs) :=
  (runC_spec nv hU hb cfg evs m h).1

/-- … hence the best chain of the chain-manager model is parent-linked from genesis, every block
on it is stored with body and supplement, and it and all its ancestors passed `ValidateBlock` -/
theorem chain_best_always_valid (U : Univ) (nv : NoVariants U) (hU : WFH (toChain U)) (hb : HashBindsC U)
    (cfg : Cfg) (evs : List Ev) :
    Chain.Chain (toChain U) (runC U cfg Chain.Mgr.init evs).best ∧
    ∀ i ∈ (runC U cfg Chain.Mgr.init evs).best, i ≠ 0 → (U i).body = true := by
  have h := chain_syncer_preserves_invW U nv hU hb cfg _ (invW_init hU) evs
  exact ⟨h.chain, fun i hi hne => (h.bestvalid i hi).body hne⟩

/-- … and the total work of its tip never decreases -/
theorem chain_tip_work_mono (U : Univ) (nv : NoVariants U) (hU : WFH (toChain U)) (hb : HashBindsC U)
    (cfg : Cfg) (m : Chain.Mgr) (h : InvW (toChain U) m) (evs : List Ev) :
    (U m.tip).work ≤ (U (runC U cfg m evs).tip).work :=
  (runC_spec nv hU hb cfg evs m h).2

/-- **the bridge to C01's `PreValidated`**: the conclusion of `gate_v2_sound` gives the contract
`C01.inv_addValidatedV2` asks for, *provided* (1) the manager satisfies the strong invariant,
(2) the request's base — the checkpoint block — has been **applied** by this manager (true for
the first request of a round, whose base is on the best chain; true for a later request iff the
previous one was applied or itself went through `AddValidatedV2Blocks`; false after a request
below the require height that was stored without being heavier), and (3) the delivered blocks
pass `ValidateOrphan` and are v2 blocks.  (3) is not established by the gate: `ValidateBlock` on
the derived state implies `ValidateOrphan` only if that state is genuine, and "is a v2 block" is
tested by the manager itself (`notV2`).  That no block is from the future *is* established
(repaired: the checkpoint path applied no future-timestamp policy). -/
theorem gate_v2_gives_PreValidated (U : Univ) (nv : NoVariants U) (hU : WFH (toChain U)) (hb : HashBindsC U)
    (cfg : Cfg) (q : Req) (r : BResp) (bs : List Nat) (m : Chain.Mgr)
    (hg : gateBatch U cfg q r = .ok bs true)
    (hI : Chain.Inv (toChain U) m)
    (hbase : m.recs q.base = some ⟨true, true⟩)
    (hextra : ∀ b ∈ bs, (U b).orphan = true ∧ (U b).v2 = true) :
    Chain.PreValidated (toChain U) m bs := by
  obtain ⟨hl, hc⟩ := gate_v2_contract nv hU hb cfg q r bs hg
  have hvb : VT (toChain U) q.base := inv_applied_VT hI _ _ rfl hbase
  obtain ⟨_, cp, _, _, _, _, _, _, _, _, _, _, hvc⟩ := gateBatch_ok_true cfg q r bs hg
  constructor
  · intro b hbm
    obtain ⟨e1, e3⟩ := hextra b hbm
    exact ⟨e1, linked_all_body bs q.base hvb hl hc b hbm, validateChain_nofuture cp.genuine bs cp.blk hvc b hbm, e3⟩
  · intro b0 rest e
    subst e
    have hp : Chain.par (toChain U) b0 = q.base := hl.1
    exact ⟨hp ▸ hl, hp ▸ hbase⟩

/-- with that contract the strong invariant of C01 is preserved by one request reaching the
manager (`Chain.addBlocks` below the require height: `addBlocks_spec`; `Chain.addValidatedV2`
at/above it: `C01.inv_addValidatedV2`) -/
theorem chain_inv_strong_step (U : Univ) (hW : Chain.WFU (toChain U)) (cfg : Cfg) (m : Chain.Mgr)
    (q : Req) (r : BResp) (hI : Chain.Inv (toChain U) m)
    (hpre : ∀ bs, gateBatch U cfg q r = .ok bs true → Chain.PreValidated (toChain U) m bs) :
    Chain.Inv (toChain U) (stepBatchC U cfg m q r).1 := by
  unfold stepBatchC
  split
  · exact hI
  · exact hI
  · rename_i bs pre hg
    cases pre
    · exact (Chain.addBlocks_spec hW hI bs).1
    · exact (Verif.C01.inv_addValidatedV2 hW hI bs bs.length (hpre bs hg)).1

/-- the universe of the exception: genesis 0; the victim's block 1 (work 30); the peer's block 2
(work 20) is header-valid but its body is not (its commitment commits to a made-up state); block
3 (work 40) is "valid" on that made-up state only -/
def fakeU : Univ := fun i =>
  match i with
  | 0 => ⟨0, 0, 0, 10, 10, true, true, true, true, false, false⟩
  | 1 => ⟨0, 1, 1, 30, 10, true, true, true, true, true, false⟩
  | 2 => ⟨0, 2, 1, 20, 10, true, true, true, false, true, false⟩
  | 3 => ⟨2, 3, 2, 40, 10, true, true, true, false, true, false⟩
  | _ => ⟨0, 0, 0, 0, 0, false, false, false, false, false, false⟩

/-- the exceptional round (require height 1): after the victim's own block `[1]`, two requests:
blocks `[2]` below the require height (stored, not heavier than the victim's tip 1, never
validated), then `[3]` through the checkpoint path with block 2 as checkpoint and a made-up state
that its commitment matches -/
def fakeRound : List Ev :=
  [.batch ⟨0, 0, [1]⟩ ⟨none, some [1]⟩,
   .batch ⟨0, 0, [2]⟩ ⟨none, some [2]⟩,
   .batch ⟨2, 1, [3]⟩ ⟨some ⟨2, true, true, true, false, true⟩, some [3]⟩]

/-- **`Chain.Inv` is not preserved by the syncer under a Byzantine peer** (nor is it by the real
code, which this model transcribes): after the exceptional round block 3 is stored with a
supplement on top of block 2, which has none (`suppclosed`), and never passed `ValidateBlock`
(`valid`).  The reorg it triggers fails at block 2 and is rolled back: the best chain is untouched
and `InvW` holds (`chain_syncer_preserves_invW`). -/
theorem chain_inv_not_preserved :
    ¬ Chain.Inv (toChain fakeU) (runC fakeU ⟨1, 100⟩ Chain.Mgr.init fakeRound) ∧
    (runC fakeU ⟨1, 100⟩ Chain.Mgr.init fakeRound).best = [1, 0] := by
  refine ⟨?_, by decide⟩
  intro h
  have h3 : (runC fakeU ⟨1, 100⟩ Chain.Mgr.init fakeRound).recs 3 = some ⟨true, true⟩ := by decide +kernel
  have := h.s.valid 3 (by decide) h3
  revert this
  decide

end OnChainModel

/-! ### facts regenerated from `/repo/syncer/peer.go` on every run (`harness/srcfacts/syncer.go`) -/

/-- **the handler goroutine survives a panic**: `handleRPC` starts with a deferred function that
calls `recover()` (a panic while serving one RPC of one peer does not take the node down). -/
theorem handler_panics_recovered : Verif.Extracted.syncerFacts.handleRPCRecovers = true := rfl

/-- the source order of the tests in the relay handlers is the order the model transcribes:
outline — attachment to the tip before the work of the recomputed ID (the repaired order);
header — work before attachment, a resync below the require height, and that resync before any
use of the "relayed recently" memo (`relayHeaderM`). -/
theorem relay_check_order_as_modelled :
    Verif.Extracted.syncerFacts.outlineTipTestBeforeWorkTest = true ∧
    Verif.Extracted.syncerFacts.headerWorkTestBeforeTipTest = true ∧
    Verif.Extracted.syncerFacts.headerResyncBelowRequire = true ∧
    Verif.Extracted.syncerFacts.headerResyncBeforeMemo = true := ⟨rfl, rfl, rfl, rfl⟩

/-- every RPC of the gateway protocol has exactly one case in `handleRPC`, and anything else
falls into `default` (an error, no state change): the set the harness enumerates is complete. -/
theorem every_gateway_rpc_has_a_case :
    Verif.Extracted.syncerFacts.handlerCases =
      ["RPCShareNodes", "RPCDiscoverIP", "RPCSendHeaders", "RPCSendV2Blocks", "RPCSendTransactions",
       "RPCSendCheckpoint", "RPCRelayV2Header", "RPCRelayV2BlockOutline", "RPCRelayV2TransactionSet",
       "default"] := rfl

/-! ### non-vacuity: a concrete universe and a concrete adversarial run -/

/-- **the header list and the remainder are two independent peer-controlled values.**  An answer
without headers ends the header phase as "synced" whatever number of remaining headers it claims
(the node is unchanged by the round), and the phase hands headers on (`go`) only when the list is
non-empty — so the "last header" the sync loop then takes always exists.  (A loop that tested
`len = 0 ∧ remaining = 0` and indexed the last header otherwise would die on `[]`/`7`: the sync
loop has no recover.) -/
theorem empty_headers_synced_whatever_remaining (U : Univ) (id : Nat) (hist : List Nat) (rem : Nat)
    (rs : List HResp) :
    headerPhase U (id :: hist) (.hdrs [] rem :: rs) = (.synced, [id]) ∧
    (∀ (h : List Nat) (resp : List HResp) (base : Nat) (l : List Nat) (r : Nat) (asked : List Nat),
      headerPhase U h resp = (.go base l r, asked) → l ≠ []) := by
  refine ⟨rfl, ?_⟩
  intro h resp
  fun_induction headerPhase U h resp <;> intro base l r asked he
  case case3 ih =>
    injection he with h1 _
    exact ih base l r _ (Prod.ext h1 rfl)
  case case7 hne =>
    cases he
    exact fun e => hne (e ▸ rfl)
  all_goals cases he

/-- **a relayed outline is judged by the block it determines, not by its ID.**  The model's
`relayOutline b` carries a *block* of the universe — every field the outline fixes, the height
it claims included (`(U b).orphan` is `ValidateOrphan` of that block) — and several blocks may
share one header ID (`sameId`): the ID of an outline does not cover its height field, so anybody
who has seen a valid block can produce an outline with the same ID (and proof of work) that
`ValidateOrphan` rejects.  Such an outline `v` is answered (with a ban when it attaches to the
tip) and leaves **no trace**: the node is unchanged, hence the verdict on any outline `b` relayed
afterwards — in particular the real block with the same ID, relayed by honest peers — is exactly
what it would have been.  (A handler that remembered "an outline with this ID was rejected" and
judged later outlines by that would ban every honest relayer of the block.) -/
theorem outline_judged_by_block_not_id (U : Univ) (n : Node) (v b : Nat) (mv m : Missing)
    (hv : (U v).orphan = false) (hs : n.supp.any (sameId U v) = false) :
    (stepOutline U n v mv).1 = n ∧
    stepOutline U (stepOutline U n v mv).1 b m = stepOutline U n b m := by
  have h1 : (stepOutline U n v mv).1 = n := by
    have hsl : ∃ e, storeLoop U n n.tip [v] = (n, n.tip, some e) := by
      simp only [storeLoop, hs, hv]
      rw [if_neg (by decide)]
      by_cases hp : ((U v).parent != (U n.tip).cid && !n.known.contains (U v).parent) = true
      · exact ⟨_, by rw [if_pos hp]⟩
      · rw [if_neg hp]
        by_cases hf : (U v).future = true
        · exact ⟨_, by rw [if_pos hf]⟩
        · exact ⟨_, by rw [if_neg hf, if_pos (by decide)]⟩
    have ha : (addBlocks U n [v]).1 = n := by
      obtain ⟨e, he⟩ := hsl
      simp only [addBlocks, he]
      simp
    rcases stepOutline_fst U n v mv with e | e
    · exact e
    · exact e.trans ha
  exact ⟨h1, by rw [h1]⟩

/-- **"in the store" is not "validated".**  `Inv` does not mention `known`: the manager stores a
block (with a header-level state) before it validates it, and the block stays stored when the
reorg fails — e.g. a relayed outline with an invalid transaction, whose sender was banned.
Whatever is stored, whatever any number of peers send afterwards (in particular a chain that
contains the stored block and continues on the state stored for it): a block that fails
`ValidateBlock` is never on the best chain, and every block of the best chain has a fully valid
ancestry.  The checkpoint path validates every block of a batch, stored or not
(`gate_v2_sound`). -/
theorem stored_invalid_block_never_adopted (U : Univ) (wf : WF U) (hb : HashBinds U) (cfg : Cfg)
    (n : Node) (h : Inv U n) (x : Nat) (hx : (U x).body = false) (evs : List Ev) :
    x ∉ (run U cfg n evs).best ∧ ∀ b ∈ (run U cfg n evs).best, ValidTo U b := by
  refine ⟨fun hm => ?_, (run_inv wf hb cfg evs n h).best⟩
  have := syncer_preserves_validity U wf hb cfg n h evs x hm
  rw [hx] at this; cases this

/-- genesis 0; honest chain 0←1←2←3 (3 is v2 and above the require height 2); 4 is a variant of 3
with the same ID whose body is invalid; 5 is a header-valid, body-invalid child of 1; 6 is 3's
outline with another height field: same ID, same proof of work, rejected by `ValidateOrphan` -/
def exU : Univ := fun i =>
  match i with
  | 0 => ⟨0, 0, 0, 10, 10, true, true, true, true, false, false⟩
  | 1 => ⟨0, 1, 1, 20, 10, true, true, true, true, false, false⟩
  | 2 => ⟨1, 2, 2, 30, 10, true, true, true, true, true, false⟩
  | 3 => ⟨2, 3, 3, 40, 10, true, true, true, true, true, false⟩
  | 4 => ⟨2, 3, 3, 40, 10, true, true, true, false, true, false⟩
  | 5 => ⟨1, 5, 2, 35, 10, true, true, true, false, false, false⟩
  | 6 => ⟨2, 3, 3, 40, 10, true, true, false, false, true, false⟩
  | _ => ⟨0, 0, 0, 0, 0, false, false, false, false, false, false⟩

def exCfg : Cfg := ⟨2, 100⟩

/-- honest sync of 1,2 (v1 path), then 3 through the checkpoint path: applied, tip 3 -/
example : (run exU exCfg Node.init
    [.sync [.hdrs [1, 2] 1] [⟨none, some [1, 2]⟩],
     .sync [.hdrs [3] 0] [⟨some ⟨2, true, true, true, true, true⟩, some [3]⟩]]).best = [3, 2, 1, 0] := by decide +kernel

/-- the variant with the same ID and an invalid body is caught by `ValidateBlock` ⇒ ban, tip unchanged -/
example : (step exU exCfg ⟨[2, 1, 0], [2, 1, 0], [2, 1, 0]⟩
    (.sync [.hdrs [3] 0] [⟨some ⟨2, true, true, true, true, true⟩, some [4]⟩])) = (⟨[2, 1, 0], [2, 1, 0], [2, 1, 0]⟩, .ban) := by decide +kernel

/-- a header-valid block with an invalid body delivered below the require height: stored, the
reorg fails, rolled back ⇒ ban, tip unchanged -/
example : (step exU exCfg ⟨[1, 0], [1, 0], [1, 0]⟩ (.sync [.hdrs [5] 0] [⟨none, some [5]⟩])).2 = .ban
    ∧ (step exU exCfg ⟨[1, 0], [1, 0], [1, 0]⟩ (.sync [.hdrs [5] 0] [⟨none, some [5]⟩])).1.best = [1, 0] := by decide +kernel

/-- the outline of 3 with another height (6: same ID) is relayed first: ban, nothing stored; the
real block 3 relayed afterwards is applied -/
example : (step exU exCfg ⟨[2, 1, 0], [2, 1, 0], [2, 1, 0]⟩ (.relayOutline 6 .complete)) = (⟨[2, 1, 0], [2, 1, 0], [2, 1, 0]⟩, .ban)
    ∧ (step exU exCfg (step exU exCfg ⟨[2, 1, 0], [2, 1, 0], [2, 1, 0]⟩ (.relayOutline 6 .complete)).1 (.relayOutline 3 .complete)).2 = .apply
    ∧ (run exU exCfg ⟨[2, 1, 0], [2, 1, 0], [2, 1, 0]⟩ [.relayOutline 6 .complete, .relayOutline 3 .complete]).best = [3, 2, 1, 0] := by decide +kernel

/-- two steps, two peers: the outline of 4 (3's ID, invalid body) is relayed: stored, the reorg
fails, ban; a second peer then delivers it in a checkpoint batch: validated again, ban, tip unchanged -/
example : (step exU exCfg ⟨[2, 1, 0], [2, 1, 0], [2, 1, 0]⟩ (.relayOutline 4 .complete)).2 = .ban
    ∧ (step exU exCfg ⟨[2, 1, 0], [2, 1, 0], [2, 1, 0]⟩ (.relayOutline 4 .complete)).1.known.contains 4 = true
    ∧ (step exU exCfg (step exU exCfg ⟨[2, 1, 0], [2, 1, 0], [2, 1, 0]⟩ (.relayOutline 4 .complete)).1
        (.sync [.hdrs [3] 0] [⟨some ⟨2, true, true, true, true, true⟩, some [4]⟩])).2 = .ban
    ∧ (run exU exCfg ⟨[2, 1, 0], [2, 1, 0], [2, 1, 0]⟩ [.relayOutline 4 .complete,
        .sync [.hdrs [3] 0] [⟨some ⟨2, true, true, true, true, true⟩, some [4]⟩]]).best = [2, 1, 0] := by decide +kernel

/-- the invariant's hypotheses are satisfiable: `exU` is well-formed and the genesis node satisfies `Inv` -/
theorem exU_wf : WF exU := by
  refine ⟨by decide, by decide, ?_⟩
  intro b
  match b with
  | 0 | 1 | 2 | 3 | 4 | 5 | 6 => rfl
  | _ + 7 => rfl

example : Inv exU Node.init := Inv.init exU_wf

end Verif.C11
