/-
C19, source tie: the regenerated control skeleton of `(*Manager).PruneBlocks` (and the pruned-block
branch of `AddBlocks`) has the shape the model (`Verif/Model/Chain.lean: prune, addBlocks`)
transcribes: the walk starts at `min(height, tip height + 1)`, goes down, stops at the first
missing index or body, and the only write is `PruneBlock`.
-/
import Verif.Extracted.ChainSkel
import Verif.Extracted.DBSkel

namespace Verif.C19Src
open Verif.Skel Verif.Extracted

theorem src_prune_balanced : balanced skel_PruneBlocks 0 = true := by decide +kernel

/-- `for h := min(height, m.tipState.Index.Height+1); h > 0; h--` -/
theorem src_prune_clamped_to_tip :
    occurs (· == .loop ["min()", "height", "m.tipState.Index.Height"] ["+", ">", "--"]) skel_PruneBlocks = true ∧
    (skel_PruneBlocks.filter (fun t => match t with | .loop .. => true | _ => false)).length = 1 := by decide +kernel

/-- inside the loop: best index at the height, stop if absent; body, stop if absent; prune -/
theorem src_prune_loop_body :
    hasInfix [isCall "m.store.BestIndex", (· == .ifc [] ["!"]), (· == .brk), (· == .done),
      isCall "m.store.Block", (· == .ifc [] ["!"]), (· == .brk), (· == .done),
      isCall "m.store.PruneBlock", (· == .done)] skel_PruneBlocks = true := by decide +kernel

/-- the only store write is `PruneBlock`; the tip and every other manager field are untouched;
no reorg, no listener -/
theorem src_prune_only_prunes :
    (skel_PruneBlocks.filter isStoreWrite = [.call "m.store.PruneBlock" []]) ∧
    occurs isSet skel_PruneBlocks = false ∧ occurs (isCall "m.reorgTo") skel_PruneBlocks = false ∧
    occurs (isCall "fn") skel_PruneBlocks = false := by decide +kernel

/-- `AddBlocks` recognises a pruned block (header present, body absent) and skips it, taking its
stored state as the parent state of what follows -/
theorem src_addblocks_skips_pruned :
    hasInfix [isCall "m.store.Header", (· == .ifc [] ["&&", "!"]), isCall "m.store.State", (· == .cont)]
      skel_AddBlocks = true := by decide +kernel

/-- reverting and serving updates read block and parent through `blockAndParent`, which reports
"not found" when either is missing (a pruned body is reported, never dereferenced) -/
theorem src_blockAndParent_found_flag :
    skel_blockAndParent = [.call "s.Block" [], .call "s.State" [], .ret ["v", "v", "v", "v:&&"]] ∧
    matchPrefix [isCall "blockAndParent", (· == .ifc [] ["!"]), isRet ["E"]] skel_revertTip = true := by decide +kernel


/-- `DBStore.PruneBlock` rewrites the block's record (header kept, body and supplement dropped:
`putBlock(bh, nil, nil)`) and touches nothing else — no state, no index, no element -/
theorem src_store_prune_block :
    skel_DBStore_PruneBlock = [.call "db.getBlock" [], .ifc [] [], .call "db.putBlock" [], .done] := rfl


/-- `getAncestorInfo` decodes a record that may be header-only: version byte, then (for the
current version) the "has header" flag and — only when there is NO cached header — the "has
block" flag, then the header fields it needs (parent id, nonce, timestamp).  It never skips the
cached header to read from a body that a pruned record does not have. -/
theorem src_store_ancestor_info_decoder :
    skel_DBStore_getAncestorInfo = [.fn, .call ".ReadUint8" [], .ifc [] ["!=", "&&", "!="], .call ".SetErr" [], .done,
      .ifc [] ["=="], .call ".ReadBool" [], .ifc [".ReadBool()"] ["!"], .call ".ReadBool" [], .done, .done,
      .call ".DecodeFrom" [], .call ".ReadUint64" [], .call ".ReadTime" [], .done,
      .call "types.DecoderFunc" [], .call "db.bucket" [], .call "db.bucket(bBlocks).get" [], .ret []] := rfl

end Verif.C19Src
