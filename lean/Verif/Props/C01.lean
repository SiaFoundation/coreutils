/-
C01 — the best chain is always fully valid, heaviest-known, and never loses work.

Theorems about the model of `chain.Manager` in `Verif/Model/Chain.lean` (`AddBlocks`,
`reorgTo`, `reorgPath`, `revertTip`, `applyTip` transcribed from `chain/manager.go`).
Consensus is a parameter: `U : Nat → Blk` gives, for every block id, what
`go.sia.tech/core/consensus` says about that block on its own ancestry (`hdrOk`, `bodyOk`,
`work`, `diff`, …).  All statements hold for every such `U`, every history of submissions
(any batches: duplicates, orphans, mixed branches) and every reachable manager.
The model is tied to the code by `harness/c01` (and c19, c04) on every run.

After the `AddBlocks` / `AddValidatedV2Blocks` theorems and their non-vacuity examples: what the
`States` bucket holds (`Model/ChainF.lean`), the block `AncestorTimestamp` reads, liveness (a valid
heavier chain is adopted), submissions whose store `Flush` fails (`Model/ChainFF.lean`), what
`History` offers to a peer, and the serialisability of the manager's callers under its lock.
-/
import Verif.Lemmas.Chain
import Verif.Lemmas.ChainKept
import Verif.Lemmas.ChainF
import Verif.Lemmas.Ancestor
import Verif.Lemmas.Adopt
import Verif.Lemmas.Mutex
import Verif.Lemmas.ChainFF

namespace Verif.C01
open Verif.Chain

/-- a history: any list of submitted batches -/
def run (U : Nat → Blk) : Mgr → List (List Nat) → Mgr
  | m, [] => m
  | m, b :: bs => run U (addBlocks U m b).1 bs

/-- the invariant holds in every reachable state -/
theorem inv_reachable {U} (hU : WFU U) (hist : List (List Nat)) : Inv U (run U Mgr.init hist) := by
  suffices h : ∀ m, Inv U m → Inv U (run U m hist) from h _ (inv_init hU)
  induction hist with
  | nil => intro m h; exact h
  | cons b bs ih => intro m h; exact ih _ (addBlocks_spec hU h b).1

/-- **Best chain parent-linked from genesis, every block on it valid** -/
theorem best_chain_valid {U} (hU : WFU U) (hist : List (List Nat)) :
    Chain U (run U Mgr.init hist).best ∧
    ∀ i ∈ (run U Mgr.init hist).best, i ≠ 0 →
      (U i).hdrOk = true ∧ (U i).bodyOk = true ∧ (U i).future = false := by
  have h := inv_reachable hU hist
  refine ⟨h.chain, fun i hi hne => ?_⟩
  have hs := h.bestsupp i hi
  have hv := h.s.validHdr i hne (h.best_state hi)
  exact ⟨hv.1, h.s.valid i hne hs, hv.2⟩

/-- `AddBlocks` **never panics and a failed reorg is always rolled back** -/
theorem never_panics {U} (hU : WFU U) (hist : List (List Nat)) (batch : List Nat) :
    (addBlocks U (run U Mgr.init hist) batch).2 ≠ some .panic ∧
    (addBlocks U (run U Mgr.init hist) batch).2 ≠ some .rollbackFailed := by
  obtain ⟨_, _, h⟩ := addBlocks_spec hU (inv_reachable hU hist) batch
  rcases AddOutcome.result h with h | h | h | h | h <;> simp [h]

/-- **an error (bad block, orphan, future block, failed reorg) leaves the chain exactly as it was**:
same best chain (hence same tip and every best-chain query) and no notification -/
theorem error_rolls_back {U} (hU : WFU U) (hist : List (List Nat)) (batch : List Nat)
    (he : (addBlocks U (run U Mgr.init hist) batch).2 ≠ none) :
    (addBlocks U (run U Mgr.init hist) batch).1.best = (run U Mgr.init hist).best ∧
    (addBlocks U (run U Mgr.init hist) batch).1.notified = (run U Mgr.init hist).notified :=
  AddOutcome.error (addBlocks_spec hU (inv_reachable hU hist) batch).2.2 he

theorem heavier_ne {U} {a b : Nat} (h : heavier U a b = true) : a ≠ b := by
  intro e
  subst e
  have := heavier_iff.mp h
  omega

/-- **the tip moves only to a sufficiently heavier chain**, and then exactly one notification is
delivered; otherwise none is -/
theorem tip_moves_only_if_heavier {U} (hU : WFU U) (hist : List (List Nat)) (batch : List Nat) :
    let m := run U Mgr.init hist
    let m' := (addBlocks U m batch).1
    (m'.tip ≠ m.tip → heavier U m'.tip m.tip = true ∧ m'.notified = m.notified + 1) ∧
    (m'.tip = m.tip → m'.notified = m.notified) :=
  AddOutcome.tip (addBlocks_spec hU (inv_reachable hU hist) batch).2.2

/-- **the tip's total work never decreases** -/
theorem tip_work_mono {U} (hU : WFU U) (hist : List (List Nat)) (batch : List Nat) :
    (U (run U Mgr.init hist).tip).work ≤ (U (addBlocks U (run U Mgr.init hist) batch).1.tip).work := by
  by_cases h : (addBlocks U (run U Mgr.init hist) batch).1.tip = (run U Mgr.init hist).tip
  · rw [h]; exact Nat.le_refl _
  · have := heavier_iff.mp ((tip_moves_only_if_heavier hU hist batch).1 h).1
    omega

theorem run_append (U : Nat → Blk) (m : Mgr) (l₁ l₂ : List (List Nat)) :
    run U m (l₁ ++ l₂) = run U (run U m l₁) l₂ := by
  induction l₁ generalizing m with
  | nil => rfl
  | cons x xs ih => exact ih _

/-- over a whole history the work of the tip is monotone -/
theorem tip_work_mono_history {U} (hU : WFU U) (hist more : List (List Nat)) :
    (U (run U Mgr.init hist).tip).work ≤ (U (run U Mgr.init (hist ++ more)).tip).work := by
  induction more generalizing hist with
  | nil => simp
  | cons b bs ih =>
    have h1 := tip_work_mono hU hist b
    have h2 := ih (hist ++ [b])
    have e : run U Mgr.init (hist ++ [b]) = (addBlocks U (run U Mgr.init hist) b).1 := by
      rw [run_append]; rfl
    rw [e] at h2
    have e2 : hist ++ b :: bs = hist ++ [b] ++ bs := by simp
    rw [e2]
    exact Nat.le_trans h1 h2

/-- **`AddValidatedV2Blocks` preserves the invariant** on every batch that satisfies the syncer's
pre-validation contract (`PreValidated`, discharged by C11's `gate_v2_sound`): the manager stays
valid, never panics, an error leaves best chain and notifications unchanged, and the tip moves
only to a sufficiently heavier chain with exactly one notification. -/
theorem inv_addValidatedV2 {U} (hU : WFU U) {m : Mgr} (h : Inv U m) (batch : List Nat) (nStates : Nat)
    (hpre : PreValidated U m batch) :
    Inv U (addValidatedV2 U m batch nStates).1 ∧
    (((addValidatedV2 U m batch nStates).2 = none ∧
        (((addValidatedV2 U m batch nStates).1.best = m.best ∧
            (addValidatedV2 U m batch nStates).1.notified = m.notified) ∨
         (heavier U (addValidatedV2 U m batch nStates).1.tip m.tip = true ∧
            (addValidatedV2 U m batch nStates).1.notified = m.notified + 1))) ∨
     (((addValidatedV2 U m batch nStates).2 = some .lenMismatch ∨
        (addValidatedV2 U m batch nStates).2 = some .missingParent ∨
        (addValidatedV2 U m batch nStates).2 = some .reorgFailed) ∧
        (addValidatedV2 U m batch nStates).1.best = m.best ∧
        (addValidatedV2 U m batch nStates).1.notified = m.notified)) := by
  cases batch with
  | nil => simp [addValidatedV2, h]
  | cons b0 rest =>
    obtain ⟨hlink, hpar⟩ := hpre.linked b0 rest rfl
    simp only [addValidatedV2]
    by_cases hn : nStates ≠ (b0 :: rest).length
    · simp only [if_pos hn]; simp [h]
    · simp only [if_neg hn]
      have hps : m.states (U b0).parent = true := by
        have := (h.s.recstate _ _ hpar).2; simpa [par] using this
      simp only [hps, Bool.not_true, Bool.false_eq_true, if_false]
      obtain ⟨j1, j2, j3, j4, j5, j6⟩ := addV2Loop_spec hU (b0 :: rest) m (par U b0) h hpar hlink hpre.ok
      rcases hg : addValidatedV2.go U (b0 :: rest) m with ⟨m1, e⟩
      rw [hg] at j1 j2 j3 j4 j5 j6
      obtain rfl : e = none := j2
      have hcs : m1.states ((b0 :: rest).getLastD b0) = true := (j1.s.recstate _ _ j6).2
      exact ⟨(maybeReorg_spec j1 hcs).1,
        (maybeReorg_outcome (inv_kept U) j1 j3 j4 hcs).imp_errs fun ke => .inr (.inr ke)⟩

/-- **`reorgPath` computes the two legs through the common ancestor** and never fails on
stored blocks (restated from the lemma file so that it is audited with the property) -/
theorem reorgPath_correct {U m} (h : Inv U m) {a b : Nat}
    (ha : m.states a = true) (hb : m.states b = true) :
    ∃ na nb, na ≤ (U a).height ∧ nb ≤ (U b).height ∧
      reorgPath U m a b none =
        .ok ((List.range na).map (fun k => anc U k a), ((List.range nb).map (fun k => anc U k b)).reverse) ∧
      anc U na a = anc U nb b :=
  reorgPath_spec h.s.core ha hb

/-! ### non-vacuity: a concrete universe with a fork, an invalid block and a failed reorg -/

/-- genesis 0; main chain 1-2; fork 3-4-5 from 1 where 4 has an invalid body -/
def Uex : Nat → Blk
  | 1 => ⟨0, 1, 200, 100, true, true, false, false⟩
  | 2 => ⟨1, 2, 300, 100, true, true, false, false⟩
  | 3 => ⟨1, 2, 301, 100, true, true, false, false⟩
  | 4 => ⟨3, 3, 400, 100, true, false, false, false⟩
  | 5 => ⟨4, 4, 500, 100, true, true, false, false⟩
  | 6 => ⟨2, 3, 410, 100, true, true, false, false⟩
  | _ => ⟨0, 0, 100, 100, false, false, false, false⟩

theorem Uex_wf : WFU Uex := by
  refine ⟨rfl, ?_⟩
  intro b hb
  match b with
  | 1 | 2 | 3 | 4 | 5 | 6 => exact ⟨by decide, by decide⟩
  | 0 => simp [Uex] at hb
  | n + 7 => simp [Uex] at hb

example : (run Uex Mgr.init [[1, 2]]).best = [2, 1, 0] := by decide
-- the near tie 3 (work 301 vs 300 + 100/5) does not move the tip; the heavier but invalid
-- branch 3-4-5 fails and is rolled back; 6 then extends the old chain
example : (addBlocks Uex (run Uex Mgr.init [[1, 2]]) [3]).1.best = [2, 1, 0] := by decide
example : (addBlocks Uex (run Uex Mgr.init [[1, 2]]) [3, 4, 5]).2 = some .reorgFailed := by decide
example : (run Uex Mgr.init [[1, 2], [3, 4, 5], [6]]).best = [6, 2, 1, 0] := by decide
example : (run Uex Mgr.init [[1, 2], [3, 4, 5], [6]]).notified = 2 := by decide

/-- a v2 universe for the pre-validated path: 1-2 (v2), batch [3] on top of 2 -/
def Uv2 : Nat → Blk
  | 1 => ⟨0, 1, 200, 100, true, true, false, true⟩
  | 2 => ⟨1, 2, 300, 100, true, true, false, true⟩
  | 3 => ⟨2, 3, 400, 100, true, true, false, true⟩
  | _ => ⟨0, 0, 100, 100, false, false, false, false⟩

example : PreValidated Uv2 (run Uv2 Mgr.init [[1, 2]]) [3] := by
  refine ⟨by decide, ?_⟩
  intro b0 rest hb
  cases hb
  exact ⟨by simp [LinkedFrom], by decide⟩
example : (addValidatedV2 Uv2 (run Uv2 Mgr.init [[1, 2]]) [3] 1).1.best = [3, 2, 1, 0] := by decide

/-! ### what the `States` bucket holds (model `Model/ChainF.lean`)

`applyTip` writes a block's complete state only when it validates the block (no supplement
stored); for a block that already has a supplement it relies on the stored state being complete.
`AddBlocks` stores header-level states, `AddValidatedV2Blocks` complete ones. -/

/-- **every best-chain block has a complete stored state**, in every state reachable by any
history of `AddBlocks`, `AddValidatedV2Blocks` and `PruneBlocks` (any block universe, any batches,
no well-formedness assumption at all); more generally every block stored with a supplement has
one — the fact `applyTip`'s supplement branch depends on.  The chain part of the state is the
plain model's (`erased`), so `inv_reachable`, `best_chain_valid`, … speak about the same run. -/
theorem stored_states_complete (U : Nat → Blk) (ops : List OpF) :
    (∀ i ∈ (runF U MgrF.init ops).m.best, (runF U MgrF.init ops).full i = true) ∧
    (∀ i r, (runF U MgrF.init ops).m.recs i = some r → r.supp = true → (runF U MgrF.init ops).full i = true) ∧
    (runF U MgrF.init ops).m = ops.foldl (eraseOp U) Mgr.init := by
  have h := runF_inv (U := U) ops FInv.init
  exact ⟨h.bestFull, h.supp, runF_m U ops MgrF.init⟩

/-- side block first, pre-validated later (the history of a seeded faulty variant): block 3 of a
fork is relayed and stored with a header-level state, then the whole fork [3, 4] is handed over
pre-validated and wins; its stored state is complete afterwards -/
def Uside : Nat → Blk
  | 1 => ⟨0, 1, 200, 100, true, true, false, true⟩
  | 2 => ⟨1, 2, 300, 100, true, true, false, true⟩
  | 3 => ⟨1, 2, 301, 100, true, true, false, true⟩
  | 4 => ⟨3, 3, 420, 100, true, true, false, true⟩
  | _ => ⟨0, 0, 100, 100, false, false, false, false⟩

example : (runF Uside MgrF.init [.add [1, 2], .add [3]]).full 3 = false ∧
    (runF Uside MgrF.init [.add [1, 2], .add [3]]).m.best = [2, 1, 0] := by decide
example : (runF Uside MgrF.init [.add [1, 2], .add [3], .addV2 [3, 4] 2]).m.best = [4, 3, 1, 0] ∧
    (runF Uside MgrF.init [.add [1, 2], .add [3], .addV2 [3, 4] 2]).full 3 = true := by decide

/-- the faulty variant ("skip `AddState` when a state is already stored") breaks the invariant on
that history: the statement above is not vacuous -/
def addV2LoopSkip (U : Nat → Blk) : List Nat → MgrF → MgrF × Option Err
  | [], s => (s, none)
  | b :: bs, s =>
    if !(U b).v2 then (s, some .notV2)
    else addV2LoopSkip U bs
      ⟨{ s.m with states := upd s.m.states b true, recs := upd s.m.recs b (some ⟨true, true⟩) },
       if s.m.states b then s.full else upd s.full b true⟩

example :
    let s1 := runF Uside MgrF.init [.add [1, 2], .add [3]]
    let s2 := (maybeReorgF Uside (addV2LoopSkip Uside [3, 4] s1).1 4).1
    s2.m.best = [4, 3, 1, 0] ∧ s2.full 3 = false := by decide

/-! ### the block whose timestamp the pre-Oak retarget reads (`DBStore.AncestorTimestamp`) -/

/-- **`AncestorTimestamp` is the parent walk**: in every reachable state of the manager, for every
block with a stored state — on the best chain, on a side chain that leaves it anywhere, or on a
chain that shares only genesis with it — the record the store reads is that of the block
`min(depth, height)` parent links above, i.e. exactly what a node that had this block's chain as
its only chain would read.  The work credited to side-chain headers (and hence the decision to
reorg) therefore does not depend on which chain is currently best. -/
theorem ancestor_timestamp_block {U} (hU : WFU U) (hist : List (List Nat)) (depth id : Nat)
    (hs : (run U Mgr.init hist).states id = true) :
    ancestorOf U (run U Mgr.init hist) depth id = anc U (min depth (U id).height) id :=
  ancestorOf_spec (inv_reachable hU hist) hs depth

/-- non-vacuity on the fork universe: block 5 (height 4, on the rejected fork 1-3-4-5) with depth 2
reads block 3, which is not on the best chain 0-1-2-6; block 6 with depth 2 takes the shortcut -/
example : (run Uex Mgr.init [[1, 2], [3, 4, 5], [6]]).best = [6, 2, 1, 0] ∧
    (run Uex Mgr.init [[1, 2], [3, 4, 5], [6]]).states 5 = true ∧
    ancestorOf Uex (run Uex Mgr.init [[1, 2], [3, 4, 5], [6]]) 2 5 = 3 ∧
    ancestorOf Uex (run Uex Mgr.init [[1, 2], [3, 4, 5], [6]]) 2 6 = 1 ∧
    ancestorOf Uex (run Uex Mgr.init [[1, 2], [3, 4, 5], [6]]) 1000 5 = 0 := by decide

/-- a seeded faulty variant ("keep the timestamp decoded while walking": the record of the LAST
block visited on the walk, one link short) is not the parent walk -/
def ancLoopShort (U : Nat → Blk) (m : Mgr) (depth height : Nat) : Nat → Nat → Nat → Nat → Nat
  | 0, _, _, last => last
  | fuel + 1, i, a, _ =>
    if m.bestAt (height - i) = some a then
      ((if height < depth then m.bestAt 0 else m.bestAt (height - depth)).getD 0)
    else ancLoopShort U m depth height fuel (i + 1) (U a).parent a

example : ancLoopShort Uex (run Uex Mgr.init [[1, 2], [3, 4, 5], [6]]) 2 4 2 0 5 5 = 4 ∧
    anc Uex 2 5 = 3 := by decide

/-! ### liveness: the heaviest valid chain offered is adopted ("heaviest-known") -/

/-- **a valid, sufficiently heavier chain is adopted**: in every reachable state, a batch that is a
parent-linked run of header-valid, non-future blocks on top of a block whose state is stored —
whether its blocks are new, already stored as side blocks, or were already refused once as part of
a longer invalid chain — and whose last block heads a chain that is valid all the way down to
genesis and sufficiently heavier than the tip, is accepted without error and becomes the tip
(with exactly one notification, by `tip_moves_only_if_heavier`) -/
theorem valid_heavier_chain_adopted_of_inv {U} (hU : WFU U) (m : Mgr) (h : Inv U m) (batch : List Nat) (last : Nat)
    (hlast : batch.getLastD m.tip = last) (hne : batch ≠ [])
    (hgood : GoodRun U m m.tip batch)
    (hvalid : ∀ k, k < (U last).height → (U (anc U k last)).bodyOk = true)
    (hheavy : heavier U last m.tip = true) :
    (addBlocks U m batch).2 = none ∧ (addBlocks U m batch).1.tip = last := by
  cases batch with
  | nil => exact absurd rfl hne
  | cons b bs =>
    obtain ⟨m1, hg, j1, htip, j5⟩ := addLoop_good_run hU h hgood
    rw [hlast] at hg j5
    simp only [addBlocks, hg]
    exact maybeReorg_adopts j1 j5 hvalid (htip ▸ hheavy)

theorem valid_heavier_chain_adopted {U} (hU : WFU U) (hist : List (List Nat)) (batch : List Nat) (last : Nat)
    (hlast : batch.getLastD (run U Mgr.init hist).tip = last) (hne : batch ≠ [])
    (hgood : GoodRun U (run U Mgr.init hist) (run U Mgr.init hist).tip batch)
    (hvalid : ∀ k, k < (U last).height → (U (anc U k last)).bodyOk = true)
    (hheavy : heavier U last (run U Mgr.init hist).tip = true) :
    (addBlocks U (run U Mgr.init hist) batch).2 = none ∧
    (addBlocks U (run U Mgr.init hist) batch).1.tip = last :=
  valid_heavier_chain_adopted_of_inv hU _ (inv_reachable hU hist) batch last hlast hne hgood hvalid hheavy

/-- non-vacuity, and the history of a seeded faulty variant: fork 3-4-5 is refused (4 is invalid),
the valid heavier sibling chain 1-2-6 is then offered again as a batch of already stored blocks
plus one — and adopted -/
example : GoodRun Uex (run Uex Mgr.init [[1, 2], [3, 4, 5]]) (run Uex Mgr.init [[1, 2], [3, 4, 5]]).tip [6] ∧
    heavier Uex 6 (run Uex Mgr.init [[1, 2], [3, 4, 5]]).tip = true ∧
    (addBlocks Uex (run Uex Mgr.init [[1, 2], [3, 4, 5]]) [6]).1.tip = 6 := by
  refine ⟨?_, by decide, by decide⟩
  simp only [GoodRun]
  refine ⟨Or.inl (by decide), by decide, by decide, trivial⟩

/-! ### a store whose `Flush` fails in the middle of a submission

The store is a dependency of the manager. `Model/ChainFF.lean` is `AddBlocks` when the first
`Flush` the call reaches returns an error. Histories may contain such submissions anywhere. -/

/-- a submission, and whether the first store flush it reaches fails -/
def stepX (U : Nat → Blk) (m : Mgr) (b : List Nat × Bool) : Mgr :=
  if b.2 then (addBlocksFF U m b.1).1 else (addBlocks U m b.1).1

def runX (U : Nat → Blk) (m : Mgr) (hist : List (List Nat × Bool)) : Mgr := hist.foldl (stepX U) m

theorem inv_reachableX {U} (hU : WFU U) (hist : List (List Nat × Bool)) : Inv U (runX U Mgr.init hist) := by
  suffices h : ∀ m, Inv U m → Inv U (runX U m hist) from h _ (inv_init hU)
  induction hist with
  | nil => intro m h; exact h
  | cons b bs ih =>
    intro m h
    apply ih
    simp only [stepX]
    split
    · exact (addBlocksFF_spec hU h b.1).1
    · exact (addBlocks_spec hU h b.1).1

/-- **a failed flush is rolled back**: after any history (with or without earlier flush
failures), a submission during which the store's flush fails leaves the best chain — hence tip,
tip state and every per-height query — and the number of notifications exactly as before, in a
state that satisfies the invariant all other theorems start from; nothing stored is lost -/
theorem failed_flush_rolls_back {U} (hU : WFU U) (hist : List (List Nat × Bool)) (batch : List Nat) :
    let m := runX U Mgr.init hist
    (addBlocksFF U m batch).1.best = m.best ∧ (addBlocksFF U m batch).1.notified = m.notified ∧
    Inv U (addBlocksFF U m batch).1 ∧ (∀ i, m.states i = true → (addBlocksFF U m batch).1.states i = true) := by
  intro m
  obtain ⟨a, b, c, d⟩ := addBlocksFF_spec hU (inv_reachableX hU hist) batch
  exact ⟨c, d, a, b⟩

/-- **and the chain is adopted when it is offered again**: a valid sufficiently heavier chain
whose submission hit a failing flush is answered with "reorg failed", and the SAME batch — all of
its blocks now stored with supplements — is accepted and becomes the tip when resubmitted (the
seeded "nothing new in this batch, return early" and "skip the rollback when the tip already is
the target" variants fail exactly here) -/
theorem adopted_after_failed_flush {U} (hU : WFU U) (hist : List (List Nat × Bool)) (batch : List Nat) (last : Nat)
    (hlast : batch.getLastD (runX U Mgr.init hist).tip = last) (hne : batch ≠ [])
    (hgood : GoodRun U (runX U Mgr.init hist) (runX U Mgr.init hist).tip batch)
    (hvalid : ∀ k, k < (U last).height → (U (anc U k last)).bodyOk = true)
    (hheavy : heavier U last (runX U Mgr.init hist).tip = true) :
    let m' := (addBlocksFF U (runX U Mgr.init hist) batch).1
    (addBlocksFF U (runX U Mgr.init hist) batch).2 = some .reorgFailed ∧
    (addBlocks U m' batch).2 = none ∧ (addBlocks U m' batch).1.tip = last := by
  have h := inv_reachableX hU hist
  generalize runX U Mgr.init hist = m at *
  intro m'
  obtain ⟨a, b, c, _⟩ := addBlocksFF_spec hU h batch
  have htip : m'.tip = m.tip := by simp only [Mgr.tip]; rw [show m'.best = m.best from c]
  refine ⟨?_, ?_⟩
  · cases batch with
    | nil => exact absurd rfl hne
    | cons b0 bs =>
      obtain ⟨m1, hg, j1, htip1, j5⟩ := addLoop_good_run hU h hgood
      rw [hlast] at hg j5
      simp only [addBlocksFF, hg]
      obtain ⟨_, _, _, _, k⟩ := maybeReorgFF_spec j1 j5
      have hv := (reorgTo_valid j1 j5 hvalid).1
      rcases k with ⟨k1, _⟩ | ⟨_, _, k3⟩ | ⟨_, k2, _⟩
      · rw [htip1, hheavy] at k1; cases k1
      · exact k3
      · exact absurd hv k2
  · exact valid_heavier_chain_adopted_of_inv hU m' a batch last (by rw [htip]; exact hlast) hne
      (by rw [htip]; exact GoodRun.mono b hgood) hvalid (by rw [htip]; exact hheavy)

/-- non-vacuity on the example universe: after [1,2], the heavier fork 3-4-5... is invalid; the
valid heavier chain 1-2-6 meets a failing flush, is rolled back, and is adopted on resubmission -/
example :
    (addBlocksFF Uex (runX Uex Mgr.init [([1, 2], false)]) [6]).2 = some .reorgFailed ∧
    (addBlocksFF Uex (runX Uex Mgr.init [([1, 2], false)]) [6]).1.best = [2, 1, 0] ∧
    (addBlocks Uex (addBlocksFF Uex (runX Uex Mgr.init [([1, 2], false)]) [6]).1 [6]).1.best = [6, 2, 1, 0] ∧
    -- an invalid fork and a failing flush: the first flush reached is the rollback's
    (addBlocksFF Uex (runX Uex Mgr.init [([1, 2], false)]) [3, 4, 5]).2 = some .rollbackFailed ∧
    (addBlocksFF Uex (runX Uex Mgr.init [([1, 2], false)]) [3, 4, 5]).1.best = [2, 1, 0] := by decide

/-! ### what `History` offers to a peer (the sample from which the common ancestor is negotiated)

`Manager.History` (`manager.go:160-184`, model `history`/`histHeight`) samples the best chain at the
tip, the nine blocks below it and then at exponentially growing distances, clamped at genesis.
Syncing from a peer on another fork works only if the sample contains a block both chains share;
genesis is shared by everyone, so "genesis is always offered" is what makes negotiation total. -/

/-- in every reachable state: the first sample is the tip, every sample is a block of the best chain,
and — for every chain shorter than 7 + 2^23 blocks — genesis is among the samples -/
theorem history_offers_tip_and_genesis {U} (hU : WFU U) (hist : List (List Nat × Bool)) :
    let m := runX U Mgr.init hist
    (history m).head? = some m.tip ∧ (∀ i ∈ history m, i ∈ m.best) ∧
    (m.tipHeight ≤ 7 + 2 ^ 23 → 0 ∈ history m) := by
  intro m
  have h := inv_reachableX hU hist
  have hb0 : m.bestAt 0 = some 0 := h.toWInv.bestAt_zero
  have hbt : m.bestAt m.tipHeight = some m.tip := h.bestAt_tip
  refine ⟨?_, ?_, ?_⟩
  · -- the sample of index 0 is taken at the tip height
    have h0 : histHeight m.tipHeight 0 = m.tipHeight := by simp [histHeight]
    simp only [history]
    rw [show List.range 32 = 0 :: (List.range 31).map (· + 1) by decide]
    simp only [List.filterMap_cons, h0, hbt, List.head?_cons]
  · intro i hi
    simp only [history, List.mem_filterMap, List.mem_range] at hi
    obtain ⟨k, _, hk⟩ := hi
    exact bestAt_mem hk
  · intro hth
    simp only [history, List.mem_filterMap, List.mem_range]
    refine ⟨31, by decide, ?_⟩
    have h31 : histHeight m.tipHeight 31 = 0 := by
      simp only [histHeight]
      have : (31 : Nat) ≥ 10 := by decide
      simp only [this, if_true]
      have h2 : 7 + 2 ^ (31 - 8) = 7 + 2 ^ 23 := by decide
      rw [h2]
      split <;> omega
    rw [h31]; exact hb0

/-- non-vacuity: on the example universe after [1,2] the sample is the tip, its parent, and genesis
in all remaining slots (what the Go code pads with) -/
example : history (runX Uex Mgr.init [([1, 2], false)]) = [2, 1] ++ List.replicate 30 0 := by decide

/-! ### atomicity licence: callers of a lock-disciplined object are serialisable

The operations `OpF.add`, `OpF.addV2`, `OpF.prune` of `Model/ChainF.lean` are ATOMIC steps. The manager is called from many goroutines.
`Props/C01Src.lean` proves from the source that every method is a sequence of critical sections of
one exclusive lock (one section, or two around the listener calls). `Model/Mutex.lean` gives such
callers an instruction-level interleaving semantics; the theorems below say that under EVERY
schedule the state is the serial execution of whole sections in lock-release order (plus the
executed prefix of the section in progress, which no other caller can observe because observing
is itself a section), and that each caller's sections happen in its program order. -/

open Verif.Mutex in
/-- for every initial state, every set of callers, every schedule: serialisability -/
theorem locked_callers_serializable {σ : Type} (x0 : σ) (progs : List (List (Seg σ))) (sched : List Nat) :
    let s := Mutex.run (Mutex.init x0 progs) sched
    s.st = (held s).foldl app (serial s.done x0) ∧ ∀ t, progOf s t = (progs[t]?).getD [] := by
  intro s
  exact ⟨run_stInv x0 sched _ (init_stInv x0 progs), fun t => by
    rw [show s = Mutex.run (Mutex.init x0 progs) sched from rfl, run_progOf, init_progOf]⟩

open Verif.Mutex in
/-- whenever the lock is free the state is EXACTLY a serial execution of completed sections, and
the completed sections of caller `t` followed by its unstarted ones are its program -/
theorem lock_free_state_is_serial {σ : Type} (x0 : σ) (progs : List (List (Seg σ))) (sched : List Nat)
    (hfree : (Mutex.run (Mutex.init x0 progs) sched).hold = none) :
    let s := Mutex.run (Mutex.init x0 progs) sched
    s.st = serial s.done x0 ∧
    ∀ t, ((s.done.filter (fun d => d.1 == t)).map (·.2)) ++ (s.rest[t]?).getD [] = (progs[t]?).getD [] := by
  intro s
  have h := locked_callers_serializable x0 progs sched
  refine ⟨?_, fun t => ?_⟩
  · have h1 := h.1
    simp only [held, hfree] at h1
    exact h1
  · have h2 := h.2 t
    simp only [progOf, hfree, List.append_nil] at h2
    exact h2

open Verif.Mutex in
/-- and they cannot deadlock on it: under every schedule, unless every caller has finished and the
lock is free, some caller can take a step that changes the lock state -/
theorem locked_callers_never_deadlock {σ : Type} (x0 : σ) (progs : List (List (Seg σ))) (sched : List Nat)
    (h : quiescent (Mutex.run (Mutex.init x0 progs) sched) = false) :
    ∃ t, (Mutex.step (Mutex.run (Mutex.init x0 progs) sched) t).hold ≠ (Mutex.run (Mutex.init x0 progs) sched).hold :=
  progress _ h

open Verif.Mutex in
/-- non-vacuity and necessity: two callers, `[x+1; x*2]` and `[x := 5]`. With the lock the
schedule 0,0,1,0,0,1,1,1 ends in a serial outcome; the same instructions WITHOUT the lock and the
schedule 0,1,0 end in 10, which neither serial order (5 and 12) produces -/
example :
    let progs : List (List (Seg Nat)) := [[[(· + 1), (· * 2)]], [[fun _ => 5]]]
    (Mutex.run (Mutex.init 0 progs) [0, 0, 1, 0, 0, 1, 1, 1]).st = 5 ∧
    (Mutex.run (Mutex.init 0 progs) [0, 0, 1, 0, 0, 1, 1, 1]).hold = none ∧
    ((Mutex.run (Mutex.init 0 progs) [0, 0, 1, 0, 0, 1, 1, 1]).done.map (·.1)) = [0, 1] ∧
    serial [(1, [fun _ => 5]), (0, [(· + 1), (· * 2)])] 0 = 12 ∧
    runRaw 0 progs [0, 1, 0] = 10 := by
  refine ⟨rfl, rfl, rfl, rfl, rfl⟩

end Verif.C01
