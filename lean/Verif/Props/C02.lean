/-
C02 — the chain store depends only on the best chain, not on the reorgs witnessed.

Property theorems only; the model is `Verif/Model/Elements.lean` (M3), the helper lemmas
`Verif/Lemmas/Elements.lean` and `Verif/Lemmas/ElementsTree.lean`.  Consensus is a
parameter: a block is the list of element diffs `consensus.ApplyBlock` produces for it, and
the hypotheses `WF` / `WFBlocks` say what consensus guarantees about those diffs relative to
the store they are applied to.  The model is tied to `/repo/chain/db.go` by `harness/c02`
(every apply and revert the real manager performs during generated fork histories is replayed
on the model and the key sets of every bucket and every expiration list are compared).

Summary.  On the keyed buckets `revertElements ∘ applyElements` is the identity for every
well-formed diff list (`revert_apply_sets`).  The expiration lists are restored as multisets
always (`revert_apply_exp_perm`) but as *lists* only in the cases characterised by
`exp_single_roundtrip_iff` / `exp_expiry_roundtrip` / `exp_create_roundtrip`; the witness
`exp_midremove_counterexample` shows a mid-list removal coming back permuted.  Hence the full
history-independence statement is false of the code (`store_history_independent_full_false`,
upstream-acknowledged, see DESIGN §5/C02) and what is proved is
`store_history_independent_partial`: for every history whose reverted blocks are `ExpStable`,
the store equals that of a node that only ever saw the best chain linearly.
-/
import Verif.Lemmas.Elements
import Verif.Lemmas.ElementsTree

namespace Verif.C02
open Verif.Elements

/-- **exact inverse on every keyed bucket**: siacoin and siafund elements, contracts (with
their window end and revision number — a revision with or without window change gives the
*prior* contract back), best index and height, for every well-formed diff list (ephemeral
created-and-spent elements included). -/
theorem revert_apply_sets (s : Store) (ds : List Diff) (hw : WF s ds) :
    (revertDiffs (applyDiffs s ds) ds.reverse).sc = s.sc ∧
    (revertDiffs (applyDiffs s ds) ds.reverse).sf = s.sf ∧
    (revertDiffs (applyDiffs s ds) ds.reverse).fc = s.fc ∧
    (revertDiffs (applyDiffs s ds) ds.reverse).index = s.index ∧
    (revertDiffs (applyDiffs s ds) ds.reverse).height = s.height := by
  rw [revertDiffs_applyDiffs_eq s ds hw]
  exact ⟨rfl, rfl, rfl, rfl, rfl⟩

/-- the expiration lists are always restored as multisets -/
theorem revert_apply_exp_perm (s : Store) (ds : List Diff) (hw : WF s ds) (h : Nat) :
    ((revertDiffs (applyDiffs s ds) ds.reverse).exp h).Perm (s.exp h) := by
  rw [revertDiffs_applyDiffs_exp]
  exact exp_roundtrip_perm ds s.exp hw.distinct hw.exp h

/-- and neither direction panics on a well-formed diff list (apply side) -/
theorem apply_never_panics (s : Store) (ds : List Diff) (hw : WF s ds) : applyDiffsPanics s ds = false :=
  applyDiffsPanics_false ds s hw.distinct hw.exp

/-- one swap-removal followed by the reverting prepend gives the list back **iff** the removed
id was the head of a list of length at most two -/
theorem exp_single_roundtrip_iff (l : List Nat) (id : Nat) (hnd : l.Nodup) (hm : id ∈ l) :
    putExp (delExp l id) id false = l ↔ l.head? = some id ∧ l.length ≤ 2 := by
  show id :: delExp l id = l ↔ _
  cases l with
  | nil => cases hm
  | cons x xs =>
    by_cases hx : x = id
    · subst hx
      -- the head goes: the last entry takes its place, which is in order only for at most one other entry
      cases hl : xs.getLast? with
      | none => simp [delExp, List.getLast?_eq_none_iff.mp hl]
      | some y =>
        obtain ⟨ys, rfl⟩ := List.getLast?_eq_some_iff.mp hl
        cases ys with
        | nil => simp [delExp]
        | cons z zs =>
          have hyz : y ≠ z := fun e => by simp [e] at hnd
          rw [List.cons_append] at hl
          simp [delExp, hl, hyz]
    · have hx' : ¬ id = x := fun e => hx e.symm
      simp [delExp, hx, hx']

/-- the whole-list expiry the scheme was built for: removing every entry in list order (the
supplement order) and prepending them back in the reversed diff order is exact -/
theorem exp_expiry_roundtrip (l : List Nat) :
    l.reverse.foldl (fun acc id => putExp acc id false) (l.foldl delExp l) = l := by
  rw [foldl_delExp_all l l (List.Perm.refl l)]
  simp [putExp]

/-- creation: append then remove-last is exact -/
theorem exp_create_roundtrip (l : List Nat) (id : Nat) (h : id ∉ l) : delExp (putExp l id true) id = l := by
  simpa [putExp] using delExp_append_self h

/-- **the revert guard mirrors the apply guard**: reverting a revision moves the expiration entry
back exactly when applying it moved the entry — whenever the revised `WindowEnd` differs from the
prior one, in *either* direction (a revision may pull the window in as well as push it out).
Applying a window-changing revision takes the contract off the list of its prior window end and
puts it on the list of the revised one; apply-then-revert has it on the prior list again and not
on the revised one; a revision that keeps the window end touches neither list in either direction. -/
theorem revision_revert_moves_back (e : Nat → List Nat) (d : Diff) (r : Nat × Nat)
    (hk : d.kind = .fc) (hs : d.spent = false) (hr : d.rev = some r)
    (hin : d.id ∈ e d.we) (hnd : (e d.we).Nodup) (hout : d.id ∉ e r.1) :
    (r.1 ≠ d.we → d.id ∉ appExp e d d.we ∧ d.id ∈ appExp e d r.1) ∧
    d.id ∈ revExp (appExp e d) d d.we ∧
    (r.1 ≠ d.we → d.id ∉ revExp (appExp e d) d r.1) ∧
    (r.1 = d.we → appExp e d = e ∧ revExp e d = e) := by
  have hw : WFExp e d := by
    intro _ _
    refine ⟨fun h => ?_, fun _ _ _ _ => hin⟩
    rw [hs] at h; exact absurd h (by decide)
  have hp := revExp_appExp_perm e d hw
  refine ⟨?_, (hp d.we).mem_iff.mpr hin, fun _ h => hout ((hp r.1).mem_iff.mp h), ?_⟩
  · intro hne
    rw [appExp_rev_move e d hk hs r hr hne]
    have hne' : d.we ≠ r.1 := fun x => hne x.symm
    constructor
    · rw [set_other _ _ _ _ hne', set_same]
      intro h
      have hmem : d.id ∈ (e d.we).erase d.id := ((delExp_perm_erase _ _).mem_iff).mp h
      exact absurd rfl (hnd.mem_erase_iff.mp hmem).1
    · rw [set_same]; simp
  · intro heq
    exact ⟨appExp_rev_same e d hk hs r hr heq, revExp_rev_same e d hk hs r hr heq⟩

/-- non-vacuity, with the window pulled *in*: contract 1 moves from height 9 to 6 and back -/
example :
    let e : Nat → List Nat := fun h => if h = 9 then [1, 2] else if h = 6 then [3] else []
    let d : Diff := ⟨.fc, 1, false, false, 9, 0, some (6, 1)⟩
    (appExp e d 9, appExp e d 6) = ([2], [3, 1]) ∧
    (revExp (appExp e d) d 9, revExp (appExp e d) d 6) = ([1, 2], [3]) := by decide

/-- **ExpStable**, defined semantically -/
def ExpStable (s : Store) (ds : List Diff) : Prop :=
  (revertDiffs (applyDiffs s ds) ds.reverse).exp = s.exp

/-- it is decided by looking at the heights the diff list mentions (what the driver evaluates) -/
theorem expStableB_iff (s : Store) (ds : List Diff) : expStableB s ds = true ↔ ExpStable s ds :=
  Elements.expStableB_iff s ds

/-- with `ExpStable` the whole block round-trips: `RevertBlock ∘ ApplyBlock = id` on the store,
across the require-height guards (`height ≤ req` on apply, `height - 1 ≤ req` on revert) -/
theorem revertBlock_applyBlock_id (req : Nat) (s : Store) (b h : Nat) (ds : List Diff)
    (hw : WF s ds) (hno : h > req → ∀ d ∈ ds, d.kind ≠ .fc) (hst : h ≤ req → ExpStable s ds)
    (hidx : s.index h = none) (hh : s.height + 1 = h) :
    revertBlock req (applyBlock req s b h ds) h ds.reverse = s :=
  revertBlock_applyBlock req s b h ds hw hno hst hidx hh

/-- checkpoint stores / blocks far above the require height: neither direction touches an
element bucket -/
theorem above_require_noop (req : Nat) (s : Store) (b h : Nat) (ds dsRev : List Diff) (hh : h > req + 1) :
    applyBlock req s b h ds = applyState s b h ∧ revertBlock req s h dsRev = revertState s (h - 1) := by
  have h1 : ¬ h ≤ req := by omega
  have h2 : ¬ h - 1 ≤ req := by omega
  simp [applyBlock, revertBlock, h1, h2]

/-- a store holding contracts 1 and 2, both expiring at height 5 -/
def wStore : Store :=
  applyDiffs Store.empty [⟨.fc, 1, true, false, 5, 0, none⟩, ⟨.fc, 2, true, false, 5, 0, none⟩]

/-- a storage proof for contract 2 -/
def wProof2 : List Diff := [⟨.fc, 2, false, true, 5, 0, none⟩]

/-- the witness: the storage proof of `2` in `[1, 2]`, reverted, leaves `[2, 1]` -/
theorem exp_midremove_counterexample :
    wStore.exp 5 = [1, 2] ∧ (revertDiffs (applyDiffs wStore wProof2) wProof2.reverse).exp 5 = [2, 1] := by
  decide

/-- so that block is not `ExpStable` although its diff list is well formed -/
theorem exp_midremove_not_stable : ¬ ExpStable wStore wProof2 := by
  intro h
  have := congrFun h 5
  revert this
  decide

/-- the diff `consensus` produces for a contract that is revised and storage-proved in one
block: the element is already the *revised* contract (`resolveFileContractElement` overwrites
it) and `Revision` still points to it.  It is not well formed (the store holds revision 0),
the round trip restores the revised contract, and with a window change `applyElements` panics. -/
def wRevisedResolved (we' : Nat) : Diff := ⟨.fc, 1, false, true, we', 1, some (we', 1)⟩

theorem revised_resolved_counterexample :
    wStore.fc 1 = some (5, 0) ∧
    (revertDiffs (applyDiffs wStore [wRevisedResolved 5]) [wRevisedResolved 5]).fc 1 = some (5, 1) ∧
    applyDiffsPanics wStore [wRevisedResolved 8] = true := by
  decide

/-- block `b` gets its expiration lists back in order when applied to and reverted from the
linear store of its parent -/
def Stable (req : Nat) (U : Nat → BlkInfo) (b : Nat) : Prop :=
  ExpStable (lin req U (U b).parent) (blockDiffs req (lin req U (U b).parent) (U b))

/-- every `revert` of the run undoes a `Stable` block -/
def RevertsStable (req : Nat) (U : Nat → BlkInfo) : Node → List Op → Prop
  | _, [] => True
  | n, op :: ops =>
    (op = .revert → Stable req U n.tip) ∧
    match n.step op with
    | none => True
    | some n' => RevertsStable req U n' ops

theorem revertsStable_iff (req : Nat) (U : Nat → BlkInfo) (ops : List Op) :
    ∀ n, RevertsStable req U n ops ↔ Verif.Elements.RevertsStable req U n ops := by
  induction ops with
  | nil => intro n; exact Iff.rfl
  | cons op ops ih =>
    intro n
    simp only [RevertsStable, Verif.Elements.RevertsStable]
    cases n.step op with
    | none => exact Iff.rfl
    | some n' => exact and_congr Iff.rfl (ih n')

/-- **history independence (partial)**: for every block universe, every history of applies and
reverts (any length, any shape the manager's `reorgTo` can produce and more) all of whose
reverted blocks are `ExpStable`, the store the node ends with is the store of the node that was
fed exactly the ancestry of its tip, one block after the other. -/
theorem store_history_independent_partial (req : Nat) (U : Nat → BlkInfo) (hU : WFU U) (hB : WFBlocks req U)
    (ops : List Op) (n : Node) (hs : RevertsStable req U (Node.init req U) ops)
    (hr : (Node.init req U).run ops = some n) :
    ∃ n', (Node.init req U).run ((path U n.tip).map Op.apply) = some n' ∧ n'.tip = n.tip ∧ n'.store = n.store := by
  have hi := inv_run hU hB ops _ n (inv_init req U hU) ((revertsStable_iff req U ops _).mp hs) hr
  obtain ⟨n', h1, h2, h3⟩ := linear_run hU hB n.tip
  exact ⟨n', h1, h2, by rw [h3.store_eq, h2, hi.store_eq]⟩

/-- TARGET (false of the current code): the same without the `ExpStable` side condition -/
def C02_store_history_independent_full : Prop :=
  ∀ (req : Nat) (U : Nat → BlkInfo), WFU U → WFBlocks req U →
    ∀ (ops : List Op) (n : Node), (Node.init req U).run ops = some n →
      ∃ n', (Node.init req U).run ((path U n.tip).map Op.apply) = some n' ∧ n'.tip = n.tip ∧ n'.store = n.store

/-- the witness universe: block 1 forms contracts 1 and 2 (both expiring at height 5); block 2
proves contract 2, block 4 proves contract 1, block 3 is empty; 2, 3 and 4 are siblings -/
def wU : Nat → BlkInfo := fun b =>
  if b = 0 then ⟨0, 0, [⟨.sc, 100, true, false, 0, 0, none⟩]⟩
  else if b = 1 then ⟨0, 1, [⟨.sc, 101, true, false, 0, 0, none⟩, ⟨.fc, 1, true, false, 5, 0, none⟩, ⟨.fc, 2, true, false, 5, 0, none⟩]⟩
  else if b = 2 then ⟨1, 2, [⟨.sc, 102, true, false, 0, 0, none⟩, ⟨.fc, 2, false, true, 5, 0, none⟩]⟩
  else if b = 3 then ⟨1, 2, [⟨.sc, 103, true, false, 0, 0, none⟩]⟩
  else if b = 4 then ⟨1, 2, [⟨.sc, 104, true, false, 0, 0, none⟩, ⟨.fc, 1, false, true, 5, 0, none⟩]⟩
  else ⟨0, 1, []⟩

/-- the history with the known finding: apply 1, apply 2, revert 2, apply 3 -/
def wOpsBad : List Op := [.apply 1, .apply 2, .revert, .apply 3]
/-- a history with a reorg whose reverted block is stable: apply 1, apply 4, revert 4, apply 3 -/
def wOpsGood : List Op := [.apply 1, .apply 4, .revert, .apply 3]

theorem wU_ge (b : Nat) (h : 5 ≤ b) : wU b = ⟨0, 1, []⟩ := by
  unfold wU
  rw [if_neg (by omega), if_neg (by omega), if_neg (by omega), if_neg (by omega), if_neg (by omega)]

theorem wU_wf : WFU wU := by
  refine ⟨rfl, fun b hb => ?_⟩
  by_cases h : 5 ≤ b
  · rw [wU_ge b h]
    rfl
  · obtain rfl | rfl | rfl | rfl : b = 1 ∨ b = 2 ∨ b = 3 ∨ b = 4 := by omega
    all_goals rfl

theorem wU_blocks : WFBlocks 100 wU := by
  constructor
  · intro b hb
    by_cases h : 5 ≤ b
    · rw [wU_ge b h, show blockDiffs 100 (lin 100 wU 0) ⟨0, 1, []⟩ = [] by decide]
      have hnil {P : Diff → Prop} : ∀ d ∈ ([] : List Diff), P d := fun _ h => (List.not_mem_nil h).elim
      exact ⟨List.Pairwise.nil, hnil, hnil, hnil, hnil⟩
    · obtain rfl | rfl | rfl | rfl : b = 1 ∨ b = 2 ∨ b = 3 ∨ b = 4 := by omega
      all_goals decide
  · intro b hb
    by_cases h : 5 ≤ b
    · rw [wU_ge b h]
      intro hh
      exact absurd hh (by decide)
    · obtain rfl | rfl | rfl | rfl : b = 1 ∨ b = 2 ∨ b = 3 ∨ b = 4 := by omega
      all_goals decide

/-- **the full statement is false of the current code**: after apply 1, apply 2, revert 2,
apply 3 the list at height 5 is `[2, 1]`; the linear node holds `[1, 2]` -/
theorem store_history_independent_full_false : ¬ C02_store_history_independent_full := by
  intro h
  obtain ⟨n, hr, hbad⟩ := Option.map_eq_some_iff.mp
    (show ((Node.init 100 wU).run wOpsBad).map (fun n => (n.tip, n.store.exp 5)) = some (3, [2, 1]) by decide)
  rw [Prod.mk.injEq] at hbad
  obtain ⟨n', h1, _, h3⟩ := h 100 wU wU_wf wU_blocks wOpsBad n hr
  have hlin : ((Node.init 100 wU).run ((path wU 3).map Op.apply)).map (fun n => n.store.exp 5) = some [1, 2] := by
    decide
  rw [← hbad.1, h1, Option.map_some, h3, hbad.2] at hlin
  cases hlin

/-- non-vacuity of `store_history_independent_partial`: a history with a real reorg (block 4,
which removed the head of a two-element expiration list, is reverted) satisfies every
hypothesis, so its store equals the linear one — here checked independently by evaluation. -/
example : ∃ n, (Node.init 100 wU).run wOpsGood = some n ∧ n.tip = 3 ∧
    RevertsStable 100 wU (Node.init 100 wU) wOpsGood := by
  obtain ⟨n, hr, ht⟩ := Option.map_eq_some_iff.mp
    (show ((Node.init 100 wU).run wOpsGood).map (·.tip) = some 3 by decide)
  exact ⟨n, hr, ht, (revertsStable_iff _ _ _ _).mpr (revertsStableB_sound 100 wU wOpsGood _ (by decide))⟩

example : ((Node.init 100 wU).run wOpsGood).map (fun n => n.store.exp 5) = some [1, 2] := by decide

/-- non-vacuity of `revert_apply_sets` / `revert_apply_exp_perm`: a well-formed diff list with a
spend, an ephemeral element, a creation, a window-changing revision and a resolution -/
def wDiffs : List Diff :=
  [⟨.sc, 7, false, true, 0, 0, none⟩, ⟨.sc, 8, true, true, 0, 0, none⟩, ⟨.sc, 9, true, false, 0, 0, none⟩,
   ⟨.fc, 1, false, false, 5, 0, some (6, 1)⟩, ⟨.fc, 2, false, true, 5, 0, none⟩, ⟨.fc, 3, true, false, 6, 0, none⟩]

example : WF (applyDiffs wStore [⟨.sc, 7, true, false, 0, 0, none⟩]) wDiffs := by decide

/-- and the bad histories are really outside the hypothesis: block 2 is not `Stable` -/
example : ¬ Stable 100 wU 2 := by
  intro h
  have := (expStableB_iff _ _).mpr h
  revert this
  decide

/-- distinct live positions get distinct keys (`col < 2^(31-row)`, i.e. fewer than `2^31`
leaves) -/
theorem treeKey_injective {r c r' c' : Nat} (hr : r < 32) (hr' : r' < 32)
    (hc : c < 2 ^ (31 - r)) (hc' : c' < 2 ^ (31 - r')) (h : treeKey r c = treeKey r' c') :
    r = r' ∧ c = c' :=
  Verif.Elements.treeKey_injective hr hr' hc hc' h

/-- every node `getElementProof(leaf, n)` reads roots a complete subtree inside `[0, n)`: a node
left over from a larger tree (stale after a revert shrank the accumulator) is never read -/
theorem proof_reads_live_nodes {leaf n i : Nat} (h : leaf < n) (hi : i < proofLen leaf n) :
    nodeLive n i ((leaf >>> i) ^^^ 1) :=
  Verif.Elements.proof_reads_live_nodes h hi

example : proofPositions 5 7 = [(0, 4)] ∧ proofPositions 2 7 = [(0, 3), (1, 0)] := by decide

end Verif.C02
