/-
C05 — the transaction pool is always a valid, minable continuation of the tip.

Property theorems only (lemmas: `Verif/Lemmas/Pool*.lean`; model: `Verif/Model/Pool.lean`,
transcribed from `/repo/chain/manager.go` and `/repo/miner.go` as repaired).  The theorems are about
every pool state reachable from an empty pool on an arbitrary ledger by ANY history `ops : List Op`
of v1 / v2 submissions (any sets, any basis paths), tip changes (any reverted and applied blocks,
any verdicts of core on re-offered transactions) and queries — no bound anywhere.

Hypothesis on histories (`Hist S ops`): transaction ids are ideal hashes — every transaction that
appears in a v1 position (a v1 set, the v1 transactions of a reverted tip) is the pre-image
`S id = (false, inputs, outputs)` of its id, every one in a v2 position `S id = (true, …)`.  Without
it the reported order is NOT always valid in the model: a v1 set may skip a transaction whose id
collides with a pooled v2 transaction and insert its child in front of that v2 transaction.

Consensus is a parameter: `txValid` combines the harness-supplied verdicts (`ok`, `era`, `bad`) with
what the pool logic itself decides (double spends, missing / not yet created outputs, leaf index =
the ledger's, height windows).  Tied to the real `chain.Manager` and `coreutils.MineBlock` by
`harness/c05` (pool contents after every step; every mined block).
-/
import Verif.Lemmas.PoolHistory
import Verif.Lemmas.PoolWeight

namespace Verif.C05
open Verif.Pool

def reach (cfg : Cfg) (l : Ledger) (ops : List Op) : Pool := run cfg (Pool.init l) ops

/-- the pool as every entry point reports it (each starts with `revalidatePool`) -/
def seen (cfg : Cfg) (p : Pool) : Pool := revalidate cfg p

def Hist (S : Nat → Bool × List Nat × List Nat) (ops : List Op) : Prop := ∀ op ∈ ops, OpConf S op

theorem seen_good (cfg : Cfg) (S : Nat → Bool × List Nat × List Nat) (l : Ledger) (ops : List Op) (h : Hist S ops) :
    PoolConf S (seen cfg (reach cfg l ops)) ∧ IdxOK (seen cfg (reach cfg l ops)) ∧ Valid cfg (seen cfg (reach cfg l ops)) :=
  revalidate_good (run_invV ops _ (init_invV cfg S l) h)

theorem seen_lr (cfg : Cfg) (l : Ledger) (ops : List Op) :
    (seen cfg (reach cfg l ops)).lastReverted = [] ∧ (seen cfg (reach cfg l ops)).lastRevertedV2 = [] :=
  revalidate_lr (List.foldlRecOn ops (step cfg) (motive := LRInv) nofun fun p h op _ => step_lrinv cfg p h op)

/-! ### the reported pool: every prefix valid against the current tip -/

/-- **PoolValid**: the reported v1 slice is a valid sequence on the tip, and the reported v2 slice is
a valid sequence on top of it (so every prefix of `v1 ++ v2` is valid: `pool_prefix_valid`) —
whatever happened before, in particular after any blocks were applied or reverted underneath. -/
theorem pool_valid (cfg : Cfg) (S : Nat → Bool × List Nat × List Nat) (l : Ledger) (ops : List Op) (h : Hist S ops) :
    seqValid cfg (seen cfg (reach cfg l ops)).led false MidState.empty (seen cfg (reach cfg l ops)).txns = true ∧
    seqValid cfg (seen cfg (reach cfg l ops)).led true (msOf MidState.empty (seen cfg (reach cfg l ops)).txns)
      (seen cfg (reach cfg l ops)).v2txns = true :=
  ⟨(seen_good cfg S l ops h).2.2.v1, (seen_good cfg S l ops h).2.2.v2⟩

/-- every prefix `a ++ b` (`a` a prefix of the v1 slice, `b` a prefix of the v2 slice, `b` empty
unless `a` is the whole v1 slice) is valid -/
theorem pool_prefix_valid (cfg : Cfg) (S : Nat → Bool × List Nat × List Nat) (l : Ledger) (ops : List Op) (h : Hist S ops)
    (a b : List Txn) (ha : a <+: (seen cfg (reach cfg l ops)).txns) (hb : b <+: (seen cfg (reach cfg l ops)).v2txns)
    (hab : b = [] ∨ a = (seen cfg (reach cfg l ops)).txns) :
    seqValid cfg (seen cfg (reach cfg l ops)).led false MidState.empty a = true ∧
    seqValid cfg (seen cfg (reach cfg l ops)).led true (msOf MidState.empty a) b = true := by
  obtain ⟨h1, h2⟩ := pool_valid cfg S l ops h
  refine ⟨seqValid_prefix cfg _ false _ ha h1, ?_⟩
  rcases hab with rfl | rfl
  · rfl
  · exact seqValid_prefix cfg _ true _ hb h2

/-- no double spends: no element is spent twice anywhere in the reported pool -/
theorem pool_no_double_spend (cfg : Cfg) (S : Nat → Bool × List Nat × List Nat) (l : Ledger) (ops : List Op) (h : Hist S ops) :
    (spentOf ((seen cfg (reach cfg l ops)).txns ++ (seen cfg (reach cfg l ops)).v2txns)).Nodup :=
  (seen_good cfg S l ops h).2.2.spent_nodup

/-- no references to missing outputs, v2 proofs match the tip: an input of a reported v2
transaction is either ephemeral and created by a transaction reported before it, or carries
exactly the leaf index the tip's ledger has for that (unspent) element, with a proof core accepts -/
theorem pool_v2_inputs_resolve (cfg : Cfg) (S : Nat → Bool × List Nat × List Nat) (l : Ledger) (ops : List Op) (h : Hist S ops)
    (pre : List Txn) (t : Txn) (post : List Txn) (hsplit : (seen cfg (reach cfg l ops)).v2txns = pre ++ t :: post)
    (i : Inp) (hi : i ∈ t.inputs) :
    match i.leaf with
    | none => i.elem ∈ createdOf ((seen cfg (reach cfg l ops)).txns ++ pre)
    | some lf => (seen cfg (reach cfg l ops)).led.leafOf i.elem = some lf ∧ i.bad = false := by
  obtain ⟨_, h2⟩ := pool_valid cfg S l ops h
  rw [hsplit] at h2
  have hr := seqValid_inpRes h2 hi
  cases hl : i.leaf with
  | none => exact (mem_empty_msOf_created _ _).1 (msOf_append _ _ _ ▸ (inpRes_ephemeral _ _ hl).1 hr)
  | some lf => exact ((inpRes_confirmed _ _ hl).1 hr).symm

/-- … and an input of a reported v1 transaction names an element the tip's ledger holds or one
created by a transaction reported before it -/
theorem pool_v1_inputs_resolve (cfg : Cfg) (S : Nat → Bool × List Nat × List Nat) (l : Ledger) (ops : List Op) (h : Hist S ops)
    (pre : List Txn) (t : Txn) (post : List Txn) (hsplit : (seen cfg (reach cfg l ops)).txns = pre ++ t :: post)
    (i : Inp) (hi : i ∈ t.inputs) :
    i.elem ∈ createdOf pre ∨ ((seen cfg (reach cfg l ops)).led.leafOf i.elem).isSome = true := by
  obtain ⟨h1, _⟩ := pool_valid cfg S l ops h
  rw [hsplit] at h1
  exact ((inpRes_v1 _ _ i).1 (seqValid_inpRes h1 hi)).imp_left (mem_empty_msOf_created _ _).1

/-! ### a block assembled from the reported pool -/

/-- weight of the block `MineBlock` assembles: its own uniqueness transaction (when the block
carries v2 data) plus the selected transactions -/
def blockWeight (cfg : Cfg) (p : Pool) (sel : List Txn × List Txn) : Nat :=
  (if cfg.allow ≤ p.led.height + 1 then cfg.filler else 0) + sumW sel.1 + sumW sel.2

/-- `MineBlock` selects a prefix of the reported pool … -/
theorem mine_prefix (cfg : Cfg) (p : Pool) :
    (mineSelect cfg p).1 <+: p.txns ∧ (mineSelect cfg p).2 <+: p.v2txns ∧
    ((mineSelect cfg p).2 = [] ∨ (mineSelect cfg p).1 = p.txns) := by
  unfold mineSelect
  by_cases hon : cfg.allow ≤ p.led.height + 1
  · simp only [hon, decide_true, if_true]
    refine ⟨takeWeight_prefix _ _ _, takeWeight_prefix _ _ _, ?_⟩
    by_cases hw : (takeWeight cfg.maxWeight cfg.filler p.txns).2 ≤ cfg.maxWeight
    · exact Or.inr (takeWeight_within _ _ _ hw).1
    · exact Or.inl (takeWeight_over _ _ _ (by omega))
  · simp only [hon, decide_false, Bool.false_eq_true, if_false]
    exact ⟨takeWeight_prefix _ _ _, List.nil_prefix, Or.inl trivial⟩

/-- … which never weighs more than a block may (the repaired loop counts the uniqueness
transaction) … -/
theorem mine_weight_le (cfg : Cfg) (p : Pool) (hf : cfg.filler ≤ cfg.maxWeight) :
    blockWeight cfg p (mineSelect cfg p) ≤ cfg.maxWeight := by
  unfold blockWeight mineSelect
  by_cases hon : cfg.allow ≤ p.led.height + 1
  · simp only [hon, decide_true, if_true]
    have h1 := takeWeight_le cfg.maxWeight p.txns cfg.filler hf
    by_cases hw : (takeWeight cfg.maxWeight cfg.filler p.txns).2 ≤ cfg.maxWeight
    · obtain ⟨hfull, hsnd⟩ := takeWeight_within _ _ _ hw
      have h2 := takeWeight_le cfg.maxWeight p.v2txns _ hw
      rw [hsnd] at h2
      rw [hfull, hsnd]
      omega
    · have hb : (takeWeight cfg.maxWeight (takeWeight cfg.maxWeight cfg.filler p.txns).2 p.v2txns).1 = [] :=
        takeWeight_over _ _ _ (by omega)
      rw [hb]
      simp only [sumW_nil]; omega
  · simp only [hon, decide_false, Bool.false_eq_true, if_false, sumW_nil]
    have := takeWeight_le cfg.maxWeight p.txns 0 (by omega)
    omega

/-- … and is valid on the tip, for every reachable pool: the block `MineBlock` assembles from what
the pool reports consists of a valid transaction sequence within the weight limit -/
theorem mine_valid (cfg : Cfg) (S : Nat → Bool × List Nat × List Nat) (l : Ledger) (ops : List Op) (h : Hist S ops)
    (hf : cfg.filler ≤ cfg.maxWeight) :
    let r := mineBlock cfg (reach cfg l ops)
    seqValid cfg r.1.led false MidState.empty r.2.1 = true ∧
    seqValid cfg r.1.led true (msOf MidState.empty r.2.1) r.2.2 = true ∧
    blockWeight cfg r.1 r.2 ≤ cfg.maxWeight := by
  intro r
  obtain ⟨p1, p2, p3⟩ := mine_prefix cfg (seen cfg (reach cfg l ops))
  have := pool_prefix_valid cfg S l ops h _ _ p1 p2 p3
  exact ⟨this.1, this.2, mine_weight_le cfg _ hf⟩

/-! ### the weight counter (what decides eviction) -/

/-- **the pool's weight is the weight of what is pooled**, in every reachable state as every entry
point sees it — whatever was submitted how often: transactions skipped as already known, rejected
sets, rolled back sets and tip changes leave no trace in the counter.  (No hypothesis on ids.) -/
theorem pool_weight_exact (cfg : Cfg) (l : Ledger) (ops : List Op) :
    (seen cfg (reach cfg l ops)).weight =
      sumW ((seen cfg (reach cfg l ops)).txns ++ (seen cfg (reach cfg l ops)).v2txns) :=
  revalidate_weight cfg _ (run_winv cfg ops _ (fun hc => by simp [Pool.init] at hc))

/-- hence nothing is evicted for low fees unless the pooled transactions themselves weigh ten
blocks: below that, a further entry point reports exactly the same pool -/
theorem eviction_only_when_full (cfg : Cfg) (l : Ledger) (ops : List Op)
    (h : sumW ((seen cfg (reach cfg l ops)).txns ++ (seen cfg (reach cfg l ops)).v2txns) < cfg.maxWeight * 10) :
    seen cfg (seen cfg (reach cfg l ops)) = seen cfg (reach cfg l ops) := by
  have hw := pool_weight_exact cfg l ops
  have hms : (seen cfg (reach cfg l ops)).ms.isSome = true := revalidate_ms cfg _
  show revalidate cfg (seen cfg (reach cfg l ops)) = seen cfg (reach cfg l ops)
  unfold revalidate
  rw [if_pos (by rw [hms, hw]; simpa using h)]

/-- **a rejected set leaves nothing behind**: when a submission fails — at the check against the
tip or at any position of the loop against the pool — then, unless the pool is full, the next
entry point reports exactly the pool that was reported before the submission: the slices, the index
and the weight are rolled back to what they were AFTER the submission's own re-validation, so the
forced re-validation neither keeps a member of the set nor evicts anything. -/
theorem rejected_set_leaves_pool (cfg : Cfg) (S : Nat → Bool × List Nat × List Nat) (l : Ledger) (ops : List Op)
    (h : Hist S ops) (v2 : Bool) (set : List Txn)
    (hfull : sumW ((seen cfg (reach cfg l ops)).txns ++ (seen cfg (reach cfg l ops)).v2txns) < cfg.maxWeight * 10)
    (herr : (addSet cfg v2 (seen cfg (reach cfg l ops)) set).2 = .err) :
    (seen cfg (addSet cfg v2 (seen cfg (reach cfg l ops)) set).1).txns = (seen cfg (reach cfg l ops)).txns ∧
    (seen cfg (addSet cfg v2 (seen cfg (reach cfg l ops)) set).1).v2txns = (seen cfg (reach cfg l ops)).v2txns := by
  obtain ⟨gc, gi, gv⟩ := seen_good cfg S l ops h
  have hw := pool_weight_exact cfg l ops
  have hlr := seen_lr cfg l ops
  have ho := addSet_outcome cfg v2 (seen cfg (reach cfg l ops)) set (revalidate_ms cfg _)
  generalize addSet cfg v2 (seen cfg (reach cfg l ops)) set = r at ho herr
  cases ho with
  | invalid _ => rw [eviction_only_when_full cfg l ops hfull]; exact ⟨rfl, rfl⟩
  | known _ _ => cases herr
  | added p' new _ _ _ _ _ _ _ _ _ _ _ _ _ _ => cases herr
  | conflict p' _ _ h1 h2 _ h4 h5 h6 h7 hms' =>
    -- the mid-state is gone, so the next entry point re-validates: from the slices as they were
    rw [seen, revalidate_of_none hms' (by rw [h4, hw]; exact hfull)]
    exact rebuild_same gc gi gv h1 h2 h5 (by rw [h6]; exact hlr.1) (by rw [h7]; exact hlr.2)

/-! ### retention

"Stays reported until it is confirmed, one of its inputs is spent by an applied block or its
creation is reverted by a reverted block (also transiently inside a reorg), or it is evicted when
the pool is full" — stated for a **self-valid set** `K1 ⊆ v1 slice, K2 ⊆ v2 slice` of the reported
pool (`Robust`: valid as a sequence on its own; `closed_is_self_valid`: any set that contains the
pooled creators of its members' inputs, e.g. a transaction with all its pooled ancestors;
`whole_pool_self_valid`), because a transaction cannot outlive a pooled parent that is lost.

In the model a tip change `reorg rev app` runs `revertPoolUpdate` for every block of `rev`, then
`applyPoolUpdate` for every block of `app`, then discards the mid-state; the next entry point
re-validates.  **"Transiently"** means: the exceptions are judged block by block, against the ledger
and the set as they are when that block is processed (`RevPathOK`, `AppPathOK`), not on the net effect
of the path — `RevOK.kept`: the reverted block created no input of a member; `AppOK.unspent*`: the
applied block spends no input of a member it does not confirm.  A member that an applied block
confirms leaves the set (`track` / `carryApp`) and its children's inputs become confirmed; it is not
claimed to stay, also not when that block is reverted later.  The other fields of `RevOK` / `AppOK`
are consistency of the block with the ledger it meets (leaf indices below the leaf counts, created
elements new, the outputs of a confirmed member among the created elements); `ObsOK` at every
entry point: the pool is not full and the tip is in a rule regime that allows the members (`ok`,
v1 signature era, height windows); the third part of `OpSafe` for a reorg: the transactions of the
reverted tip (re-offered once) spend nothing a member spends — they were confirmed on the chain the
members were valid on. -/

/-- **retained** (any history): let `K1, K2` be a self-valid set inside the pool reported after the
history `pre`; then after ANY further history `ops` of submissions, tip changes and queries whose
operations are safe for the set (`Safe`), everything that is left of the set after removing the
members confirmed on the way (`ops.foldl track`) is reported, in order. -/
theorem retained (cfg : Cfg) (S : Nat → Bool × List Nat × List Nat) (l : Ledger) (pre ops : List Op)
    (h : Hist S (pre ++ Op.query :: ops)) (K1 K2 : List Txn)
    (h1 : K1.Sublist (seen cfg (reach cfg l pre)).txns) (h2 : K2.Sublist (seen cfg (reach cfg l pre)).v2txns)
    (hr : Robust (seen cfg (reach cfg l pre)).led K1 K2)
    (hs : Safe cfg (seen cfg (reach cfg l pre)) (K1, K2) (ops ++ [Op.query])) :
    (ops.foldl track (K1, K2)).1.Sublist (seen cfg (reach cfg l (pre ++ Op.query :: ops))).txns ∧
    (ops.foldl track (K1, K2)).2.Sublist (seen cfg (reach cfg l (pre ++ Op.query :: ops))).v2txns := by
  have hpre : Hist S pre := fun op hop => h op (List.mem_append_left _ hop)
  have hops : ∀ op ∈ ops ++ [Op.query], OpConf S op := fun op hop =>
    (List.mem_append.1 hop).elim (fun h' => h op (List.mem_append_right _ (List.mem_cons_of_mem _ h')))
      fun h' => List.mem_singleton.1 h' ▸ trivial
  obtain ⟨gc, gi, gv⟩ := seen_good cfg S l pre hpre
  have hinv : InvV cfg S (seen cfg (reach cfg l pre)) := ⟨gc, fun _ => ⟨gi, gv⟩⟩
  have hcar : Carried S (seen cfg (reach cfg l pre)) K1 K2 :=
    ⟨gc, ListsOK.of_good gi gv, h1, h2, hr, by rw [(seen_lr cfg l pre).1, (seen_lr cfg l pre).2]; nofun⟩
  obtain ⟨hfin, _⟩ := run_carried (ops ++ [Op.query]) _ (K1, K2) hinv hcar hops hs
  have hrun : run cfg (seen cfg (reach cfg l pre)) (ops ++ [Op.query]) = seen cfg (reach cfg l (pre ++ Op.query :: ops)) := by
    unfold reach seen
    rw [run_append, run_append]
    simp [run, step]
  rw [List.foldl_append, hrun] at hfin
  exact ⟨hfin.sub1, hfin.sub2⟩

/-- **retained, per transaction**: a member of such a set that no applied block of the history
confirms is reported at the end — a v1 member as it is, a v2 member under its id (its inputs may
have become confirmed) -/
theorem retained_member (cfg : Cfg) (S : Nat → Bool × List Nat × List Nat) (l : Ledger) (pre ops : List Op)
    (h : Hist S (pre ++ Op.query :: ops)) (K1 K2 : List Txn)
    (h1 : K1.Sublist (seen cfg (reach cfg l pre)).txns) (h2 : K2.Sublist (seen cfg (reach cfg l pre)).v2txns)
    (hr : Robust (seen cfg (reach cfg l pre)).led K1 K2)
    (hs : Safe cfg (seen cfg (reach cfg l pre)) (K1, K2) (ops ++ [Op.query])) :
    (∀ k ∈ K1, (∀ b ∈ appliedBlocks ops, k.id ∉ conf1 b) →
      k ∈ (seen cfg (reach cfg l (pre ++ Op.query :: ops))).txns) ∧
    (∀ k ∈ K2, (∀ b ∈ appliedBlocks ops, k.id ∉ conf2 b) →
      k.id ∈ (seen cfg (reach cfg l (pre ++ Op.query :: ops))).v2txns.map (·.id)) := by
  obtain ⟨r1, r2⟩ := retained cfg S l pre ops h K1 K2 h1 h2 hr hs
  rw [foldl_track] at r1 r2
  constructor
  · intro k hk hn
    exact r1.subset (carryApp_ids1 _ (K1, K2) k hk hn)
  · intro k hk hn
    obtain ⟨k', hk', e⟩ := carryApp_ids2 _ (K1, K2) k hk hn
    exact List.mem_map.2 ⟨k', r2.subset hk', e⟩

/-- a set that contains every pooled transaction creating an input of one of its members (e.g. a
transaction together with all its pooled ancestors) is self-valid … -/
theorem closed_is_self_valid (cfg : Cfg) (S : Nat → Bool × List Nat × List Nat) (l : Ledger) (ops : List Op) (h : Hist S ops)
    (K1 K2 : List Txn) (h1 : K1.Sublist (seen cfg (reach cfg l ops)).txns) (h2 : K2.Sublist (seen cfg (reach cfg l ops)).v2txns)
    (hc1 : ∀ c ∈ (seen cfg (reach cfg l ops)).txns, ∀ e ∈ c.outputs, e ∈ spentOf (K1 ++ K2) → c ∈ K1)
    (hc2 : ∀ c ∈ (seen cfg (reach cfg l ops)).v2txns, ∀ e ∈ c.outputs, e ∈ spentOf (K1 ++ K2) → c ∈ K2) :
    Robust (seen cfg (reach cfg l ops)).led K1 K2 := by
  obtain ⟨_, gi, gv⟩ := seen_good cfg S l ops h
  exact robust_of_closed gv gi h1 h2 hc1 hc2

/-- … and so is the whole reported pool -/
theorem whole_pool_self_valid (cfg : Cfg) (S : Nat → Bool × List Nat × List Nat) (l : Ledger) (ops : List Op) (h : Hist S ops) :
    Robust (seen cfg (reach cfg l ops)).led (seen cfg (reach cfg l ops)).txns (seen cfg (reach cfg l ops)).v2txns :=
  (seen_good cfg S l ops h).2.2.robust

/-- **retained, whole pool, one applied block** (the frame form): when the block touches no input
of any pooled transaction and crosses no rule boundary then — unless the pool is full — the pool
reported afterwards is exactly the pool reported before, same transactions, same order. -/
theorem retained_whole_pool (cfg : Cfg) (S : Nat → Bool × List Nat × List Nat) (l : Ledger) (ops : List Op) (h : Hist S ops)
    (b : Blk) (flags : List Bool)
    (hfull : (seen cfg (reach cfg l ops)).weight < cfg.maxWeight * 10)
    (hun : ∀ t ∈ (seen cfg (reach cfg l ops)).txns ++ (seen cfg (reach cfg l ops)).v2txns, ∀ i ∈ t.inputs,
      i.elem ∉ ids b.spent ∧ i.elem ∉ ids b.created)
    (hleaf : ∀ t ∈ (seen cfg (reach cfg l ops)).v2txns, proofsOk b.leavesAfter t = true)
    (hr : SameRules cfg (seen cfg (reach cfg l ops)).led ((seen cfg (reach cfg l ops)).led.apply b)) :
    (seen cfg (reorg (seen cfg (reach cfg l ops)) [] [b] flags)).txns = (seen cfg (reach cfg l ops)).txns ∧
    (seen cfg (reorg (seen cfg (reach cfg l ops)) [] [b] flags)).v2txns = (seen cfg (reach cfg l ops)).v2txns := by
  obtain ⟨gc, gi, gv⟩ := seen_good cfg S l ops h
  obtain ⟨e1, e2⟩ := seen_lr cfg l ops
  exact apply_frame cfg S _ b flags gv gi gc hfull hun hleaf hr (by rw [e1]; simp) (by rw [e2]; simp [zipBad])

/-! ### non-vacuity -/

private def cfg0 : Cfg := { allow := 1, require := 100, maxWeight := 1000, filler := 12 }
private def led0 : Ledger := ⟨[(1, 0), (2, 1), (3, 2)], 3, 1⟩
private def S0 : Nat → Bool × List Nat × List Nat
  | 10 => (false, [1], [11]) | 20 => (true, [2], [21]) | 30 => (true, [21], [31]) | _ => (false, [], [])
private def tA : Txn := ⟨10, true, 2, 5, 400, [⟨1, none, false⟩], [11]⟩     -- v1
private def tB : Txn := ⟨20, true, 2, 5, 400, [⟨2, some 1, false⟩], [21]⟩  -- v2
private def tC : Txn := ⟨30, true, 2, 5, 300, [⟨21, none, false⟩], [31]⟩   -- v2, child of B
private def blk : Blk := ⟨2, 3, 5, [], [], [(3, 2)], [(7, 3), (8, 4)]⟩       -- touches nothing pooled

/-- a reachable pool with a v2 parent/child chain and a v1 transaction submitted after it (and
reported in front of it); an unrelated block keeps all of it (the ephemeral child included — the
unrepaired `updateTxnProofs` dropped C here); the miner takes the prefix that fits 1000 together with
its own 12 (A, B: 812; C would make 1112) -/
example :
    let p := reach cfg0 led0 [.addV2 (some ([], [])) [tB, tC], .addV1 [tA]]
    Hist S0 [.addV2 (some ([], [])) [tB, tC], .addV1 [tA]] ∧
    ((seen cfg0 p).txns.map (·.id), (seen cfg0 p).v2txns.map (·.id)) = ([10], [20, 30]) ∧
    ((seen cfg0 (reorg p [] [blk] [])).v2txns.map (·.id)) = [20, 30] ∧
    ((mineBlock cfg0 p).2.1.map (·.id), (mineBlock cfg0 p).2.2.map (·.id)) = ([10], [20]) := by
  refine ⟨?_, by decide +kernel, by decide +kernel, by decide +kernel⟩
  intro op hop
  simp only [List.mem_cons, List.not_mem_nil, or_false] at hop
  rcases hop with rfl | rfl <;> simp [OpConf, Conf, S0, tA, tB, tC]

private def bConf : Blk := ⟨2, 3, 6, [], [tB], [(2, 1)], [(21, 3), (7, 4), (8, 5)]⟩   -- confirms B only

/-- non-vacuity of `retained`: the pool `A | B, C` (C spends B's output) is a self-valid set; a block
that confirms B (and nothing else of it) is safe for it; what is left — A, and C with its input now
confirmed at leaf 3 — is reported afterwards.  (With `applyPoolUpdate` handed the pre-block state, a
seeded change, C would be lost here.) -/
example :
    let pre : List Op := [.addV2 (some ([], [])) [tB, tC], .addV1 [tA]]
    let ops : List Op := [.reorg [] [bConf] []]
    Hist S0 (pre ++ Op.query :: ops) ∧
    Safe cfg0 (seen cfg0 (reach cfg0 led0 pre)) ([tA], [tB, tC]) (ops ++ [Op.query]) ∧
    ops.foldl track ([tA], [tB, tC]) = ([tA], [{ tC with inputs := [⟨21, some 3, false⟩] }]) ∧
    [{ tC with inputs := [⟨21, some 3, false⟩] }].Sublist (seen cfg0 (reach cfg0 led0 (pre ++ Op.query :: ops))).v2txns := by
  intro pre ops
  have hh : Hist S0 (pre ++ Op.query :: ops) := by
    intro op hop
    simp only [pre, ops, List.cons_append, List.nil_append, List.mem_cons, List.not_mem_nil, or_false] at hop
    rcases hop with rfl | rfl | rfl | rfl
    · simp [OpConf, Conf, S0, tB, tC]
    · simp [OpConf, Conf, S0, tA]
    · trivial
    · simp [OpConf]
  have hsafe : Safe cfg0 (seen cfg0 (reach cfg0 led0 pre)) ([tA], [tB, tC]) (ops ++ [Op.query]) := by
    refine ⟨⟨trivial, ⟨⟨by decide, by decide, by decide, by decide, by decide, ?_, by decide⟩, trivial⟩, by decide⟩, ⟨by decide, by decide, by decide⟩, trivial⟩
    exact leaves_lt_of_all _ _ (by decide)
  refine ⟨hh, hsafe, by decide, ?_⟩
  exact (retained cfg0 S0 led0 pre ops hh [tA] [tB, tC] (by decide) (by decide) ⟨by decide, by decide⟩ hsafe).2

end Verif.C05
