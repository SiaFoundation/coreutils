/-
C04 — subscribers can always follow the chain through reorgs via the update stream.

Theorems about `updatesSince` / `nextUpd` (`Manager.UpdatesSince`) over every manager reachable
by any history of submissions (`C01.run`), for every subscriber index the manager applied at some
point (or "nothing"), every `max`, every chunking.  The element diffs carried by the updates
are followed at the set level in the second half (`ledger_from_updates*`); Merkle proofs are not
in this model: that part of the property is decided by the shadow-ledger oracle of `harness/c04`
against linear twins.
-/
import Verif.Lemmas.Updates
import Verif.Lemmas.UpdatesLedger
import Verif.Props.C01
import Verif.Lemmas.Listeners

namespace Verif.C04
open Verif.Chain

/-- one poll, as a subscriber performs it: ask for at most `max` updates with enough fuel for
the whole distance, then move the index along the returned path -/
def poll (U : Nat → Blk) (m : Mgr) (idx : Option Nat) (max : Nat) : Option (Option Nat × List Upd) :=
  match updatesSince U m (mu U m idx) idx max [] with
  | .error _ => none
  | .ok us => (walk U idx us).map fun idx' => (idx', us)

theorem poll_spec {U m} (h : Inv U m) (idx : Option Nat) (max : Nat) (hs : Sub m idx) :
    ∃ idx' us, poll U m idx max = some (idx', us) ∧ walk U idx us = some idx' ∧ Sub m idx' ∧
      mu U m idx' + us.length ≤ mu U m idx ∧ us.length ≤ max ∧
      (idx' = some m.tip ∨ us.length = max) ∧ (1 ≤ max → idx ≠ some m.tip → us ≠ []) := by
  obtain ⟨us, idx', r1, r2, r3, r4, r5, r6, _, r8⟩ :=
    updatesSince_spec h max (mu U m idx) idx [] hs (Nat.le_refl _)
  refine ⟨idx', us, ?_, r2, r3, r4, by simpa using r8, ?_, fun hm => r6 (Nat.lt_of_lt_of_le Nat.zero_lt_one hm)⟩
  · simp only [poll, r1, List.nil_append, r2, Option.map_some]
  · rcases r5 with e | e
    · exact Or.inl e
    · right
      simp at e r8
      omega

/-- **a poll never fails, returns a contiguous path from the subscriber's index, at most `max`
updates, and stops only at the tip or at `max`** — for every reachable manager -/
theorem poll_ok {U} (hU : WFU U) (hist : List (List Nat)) (idx : Option Nat) (max : Nat)
    (hs : Sub (C01.run U Mgr.init hist) idx) :
    ∃ idx' us, poll U (C01.run U Mgr.init hist) idx max = some (idx', us) ∧
      walk U idx us = some idx' ∧ Sub (C01.run U Mgr.init hist) idx' ∧
      us.length ≤ max ∧ (idx' = some (C01.run U Mgr.init hist).tip ∨ us.length = max) := by
  obtain ⟨idx', us, h1, h2, h3, _, h5, h6, _⟩ := poll_spec (C01.inv_reachable hU hist) idx max hs
  exact ⟨idx', us, h1, h2, h3, h5, h6⟩

/-- **progress**: with `max ≥ 1` a subscriber that is not at the tip always receives at least one
update, and every update brings it strictly closer to the tip -/
theorem poll_progress {U} (hU : WFU U) (hist : List (List Nat)) (idx : Option Nat) (max : Nat)
    (hs : Sub (C01.run U Mgr.init hist) idx) (hmax : 1 ≤ max)
    (hne : idx ≠ some (C01.run U Mgr.init hist).tip) :
    ∃ idx' us, poll U (C01.run U Mgr.init hist) idx max = some (idx', us) ∧ us ≠ [] ∧
      mu U (C01.run U Mgr.init hist) idx' + us.length ≤ mu U (C01.run U Mgr.init hist) idx := by
  obtain ⟨idx', us, h1, _, _, h4, _, _, h7⟩ := poll_spec (C01.inv_reachable hU hist) idx max hs
  exact ⟨idx', us, h1, h7 hmax hne, h4⟩

/-- repeated polling with arbitrary chunk sizes -/
def follow (U : Nat → Blk) (m : Mgr) : List Nat → Option Nat → Option (Option Nat)
  | [], idx => some idx
  | c :: cs, idx =>
    match poll U m idx c with
    | none => none
    | some (idx', _) => follow U m cs idx'

/-- **any chunking converges**: polling with chunk sizes that are all ≥ 1 reaches the manager's
tip after at most `mu` polls (and stays there) -/
theorem follow_converges {U} (hU : WFU U) (hist : List (List Nat)) :
    ∀ (chunks : List Nat) (idx : Option Nat), Sub (C01.run U Mgr.init hist) idx →
      (∀ c ∈ chunks, 1 ≤ c) → mu U (C01.run U Mgr.init hist) idx ≤ chunks.length →
      follow U (C01.run U Mgr.init hist) chunks idx = some (some (C01.run U Mgr.init hist).tip) := by
  have h := C01.inv_reachable hU hist
  generalize C01.run U Mgr.init hist = m at *
  intro chunks
  induction chunks with
  | nil =>
    intro idx hs _ hmu
    -- at distance 0 a poll returns nothing, so it has stopped at the tip
    obtain ⟨idx', us, _, r2, _, r4, _, r6, _⟩ := poll_spec h idx 1 hs
    have hus : us = [] := List.eq_nil_of_length_eq_zero (by simp at hmu; omega)
    subst hus
    cases r2
    rcases r6 with e | e
    · rw [follow, e]
    · cases e
  | cons c cs ih =>
    intro idx hs hc hmu
    obtain ⟨idx', us, hp, _, r3, r4, _, _, r7⟩ := poll_spec h idx c hs
    simp only [follow, hp]
    apply ih idx' r3 (fun x hx => hc x (List.mem_cons_of_mem _ hx))
    by_cases hat : idx = some m.tip
    · -- already at the tip: the distance is 0 and stays 0
      have hmu0 : mu U m idx = 0 := by
        subst hat
        have := h.tipHeight_eq
        simp only [mu, ← this, h.bestAt_tip, if_true]; omega
      omega
    · have := List.length_pos_iff.mpr (r7 (hc c List.mem_cons_self) hat)
      simp only [List.length_cons] at hmu
      omega

/-- **interleaving with submissions**: an index the subscriber reached stays a valid subscriber
index after any further submission (valid, invalid, reorg, failed reorg), so polling remains
possible after any interleaving of polls and `AddBlocks` calls -/
theorem sub_preserved {U} (hU : WFU U) (hist : List (List Nat)) (batch : List Nat) (idx : Option Nat)
    (hs : Sub (C01.run U Mgr.init hist) idx) :
    Sub (addBlocks U (C01.run U Mgr.init hist) batch).1 idx := by
  cases idx with
  | none => trivial
  | some i => exact (addBlocks_spec hU (C01.inv_reachable hU hist) batch).2.1.2 i hs

/-- the index a poll leaves the subscriber at is again a valid subscriber index (so is the
manager's tip, and "nothing") -/
theorem tip_is_sub {U} (hU : WFU U) (hist : List (List Nat)) :
    Sub (C01.run U Mgr.init hist) (some (C01.run U Mgr.init hist).tip) := by
  have h := C01.inv_reachable hU hist
  exact h.bestsupp _ h.tip_mem

/-- **reorg notifications are delivered whenever, and only when, the tip has changed** (restated
from C01 for this property) -/
theorem notified_iff_tip_changed {U} (hU : WFU U) (hist : List (List Nat)) (batch : List Nat) :
    ((addBlocks U (C01.run U Mgr.init hist) batch).1.tip ≠ (C01.run U Mgr.init hist).tip ↔
      (addBlocks U (C01.run U Mgr.init hist) batch).1.notified = (C01.run U Mgr.init hist).notified + 1) ∧
    ((addBlocks U (C01.run U Mgr.init hist) batch).1.tip = (C01.run U Mgr.init hist).tip ↔
      (addBlocks U (C01.run U Mgr.init hist) batch).1.notified = (C01.run U Mgr.init hist).notified) := by
  obtain ⟨h1, h2⟩ := C01.tip_moves_only_if_heavier hU hist batch
  refine ⟨⟨fun hne => (h1 hne).2, fun hn he => ?_⟩, h2, fun hn => Decidable.byContradiction fun he => ?_⟩
  · have := h2 he
    omega
  · have := (h1 he).2
    omega

/-! ### non-vacuity: a subscriber on a reverted branch walks back and forward -/

-- history: 1-2 best, then 3 (near tie, stored, not applied), then 6 extends 2.
-- A subscriber at 2 polls after the manager reorged to the heavier fork 3-4'-…: use C01.Uex
example : poll C01.Uex (C01.run C01.Uex Mgr.init [[1, 2], [6]]) none 2 =
    some (some 1, [.apply 0, .apply 1]) := by decide
example : poll C01.Uex (C01.run C01.Uex Mgr.init [[1, 2], [6]]) (some 1) 1000 =
    some (some 6, [.apply 2, .apply 6]) := by decide

/-- a universe with a real reorg: 1-2 best, then 3-4-5 (all valid) takes over -/
def Ure : Nat → Blk
  | 1 => ⟨0, 1, 200, 100, true, true, false, false⟩
  | 2 => ⟨1, 2, 300, 100, true, true, false, false⟩
  | 3 => ⟨1, 2, 301, 100, true, true, false, false⟩
  | 4 => ⟨3, 3, 400, 100, true, true, false, false⟩
  | _ => ⟨0, 0, 100, 100, false, false, false, false⟩

example : (C01.run Ure Mgr.init [[1, 2], [3, 4]]).best = [4, 3, 1, 0] := by decide
-- the subscriber that had reached block 2 is walked back to 1 and forward along the new chain
example : poll Ure (C01.run Ure Mgr.init [[1, 2], [3, 4]]) (some 2) 1000 =
    some (some 4, [.revert 2, .apply 3, .apply 4]) := by decide
example : poll Ure (C01.run Ure Mgr.init [[1, 2], [3, 4]]) (some 2) 1 =
    some (some 1, [.revert 2]) := by decide

/-! ### the element side: the ledger a subscriber folds from the updates

Every block id carries the element diffs consensus computed for it (`D`, a parameter, well
formed relative to the ledger of the chain below the block: `WFD`).  A subscriber folds a
`RevertUpdate` with the block's diffs reversed and an `ApplyUpdate` with the block's diffs
(`foldUpd`).  `ledgerOfChain D l` is the fold of the applies along the chain `l` from genesis.
Merkle proof values are not part of this model (oracle of `harness/c04`). -/

open Verif.Elements (Store Diff)

theorem best_is_chain_of_tip {U} (hU : WFU U) (hist : List (List Nat)) :
    ChainTo U (some (C01.run U Mgr.init hist).tip) (C01.run U Mgr.init hist).best := by
  have h := C01.inv_reachable hU hist
  refine ⟨h.chain, ?_⟩
  have := h.chain.ne_nil
  cases hb : (C01.run U Mgr.init hist).best with
  | nil => exact absurd hb this
  | cons a t => simp [Mgr.tip, hb]

/-- **ledger from updates (one poll)**: for every reachable manager, every subscriber index it
applied at some point (or "nothing"), every `max`: if the subscriber's ledger agrees on the keyed
buckets (unspent siacoin / siafund elements, contracts with window end and revision number) with
the ledger of its index's chain, then after folding the path the poll returns it agrees with the
ledger of the chain of the index the poll ends at — which is the best chain when that index is
the tip.  No condition on the reverted blocks. -/
theorem ledger_from_updates {U} (hU : WFU U) (D : Nat → List Diff) (hD : WFD U D) (hist : List (List Nat))
    (idx : Option Nat) (max : Nat) (hs : Sub (C01.run U Mgr.init hist) idx)
    (l : List Nat) (hl : ChainTo U idx l) (L : Store) (hL : KeyedEq L (ledgerOfChain D l)) :
    ∃ idx' us l', poll U (C01.run U Mgr.init hist) idx max = some (idx', us) ∧
      Sub (C01.run U Mgr.init hist) idx' ∧ ChainTo U idx' l' ∧
      KeyedEq (foldUpd D L us) (ledgerOfChain D l') ∧
      (idx' = some (C01.run U Mgr.init hist).tip → l' = (C01.run U Mgr.init hist).best) := by
  obtain ⟨idx', us, h1, h2, h3, _, _⟩ := poll_ok hU hist idx max hs
  obtain ⟨l', h4, h5⟩ := foldUpd_keyed hD us idx idx' l L hl hL h2
  refine ⟨idx', us, l', h1, h3, h4, h5, ?_⟩
  intro he
  rw [he] at h4
  exact ChainTo.unique h4 (best_is_chain_of_tip hU hist)

/-- **ledger from updates, expiration lists included**: when every block the returned path
reverts is `ExpStable` (C02), the fold started from exactly the ledger of the index's chain is
exactly the ledger of the end index's chain. -/
theorem ledger_from_updates_exact {U} (hU : WFU U) (D : Nat → List Diff) (hD : WFD U D) (hist : List (List Nat))
    (idx : Option Nat) (max : Nat) (hs : Sub (C01.run U Mgr.init hist) idx)
    (l : List Nat) (hl : ChainTo U idx l) :
    ∃ idx' us, poll U (C01.run U Mgr.init hist) idx max = some (idx', us) ∧
      ((∀ b, Upd.revert b ∈ us → StableD U D b) →
        ∃ l', ChainTo U idx' l' ∧ foldUpd D (ledgerOfChain D l) us = ledgerOfChain D l') := by
  obtain ⟨idx', us, h1, h2, _, _, _⟩ := poll_ok hU hist idx max hs
  exact ⟨idx', us, h1, fun hst => foldUpd_exact hD us idx idx' l hl hst h2⟩

/-- repeated polling with arbitrary chunk sizes, carrying the ledger along -/
def followL (U : Nat → Blk) (D : Nat → List Diff) (m : Mgr) : List Nat → Option Nat → Store → Option (Option Nat × Store)
  | [], idx, L => some (idx, L)
  | c :: cs, idx, L =>
    match poll U m idx c with
    | none => none
    | some (idx', us) => followL U D m cs idx' (foldUpd D L us)

theorem followL_spec {U} (hU : WFU U) (D : Nat → List Diff) (hD : WFD U D) (hist : List (List Nat)) :
    ∀ (chunks : List Nat) (idx idx'' : Option Nat) (l : List Nat) (L : Store),
      Sub (C01.run U Mgr.init hist) idx → ChainTo U idx l → KeyedEq L (ledgerOfChain D l) →
      follow U (C01.run U Mgr.init hist) chunks idx = some idx'' →
      ∃ L' l'', followL U D (C01.run U Mgr.init hist) chunks idx L = some (idx'', L') ∧
        ChainTo U idx'' l'' ∧ KeyedEq L' (ledgerOfChain D l'') := by
  intro chunks
  induction chunks with
  | nil =>
    intro idx idx'' l L _ hl hL hf
    simp only [follow, Option.some.injEq] at hf
    subst hf
    exact ⟨L, l, rfl, hl, hL⟩
  | cons c cs ih =>
    intro idx idx'' l L hs hl hL hf
    obtain ⟨idx', us, l', h1, h3, h4, h5, _⟩ := ledger_from_updates hU D hD hist idx c hs l hl L hL
    simp only [follow, h1] at hf
    obtain ⟨L', l'', g1, g2, g3⟩ := ih idx' idx'' l' (foldUpd D L us) h3 h4 h5 hf
    exact ⟨L', l'', by simp only [followL, h1]; exact g1, g2, g3⟩

/-- **ledger from updates (any chunking, any number of polls)**: polling with chunk sizes ≥ 1
until the tip is reached (`follow_converges`) and folding everything received leaves the
subscriber with the ledger of the manager's best chain on the keyed buckets. -/
theorem ledger_from_updates_follow {U} (hU : WFU U) (D : Nat → List Diff) (hD : WFD U D) (hist : List (List Nat))
    (chunks : List Nat) (idx : Option Nat) (hs : Sub (C01.run U Mgr.init hist) idx)
    (hc : ∀ c ∈ chunks, 1 ≤ c) (hmu : mu U (C01.run U Mgr.init hist) idx ≤ chunks.length)
    (l : List Nat) (hl : ChainTo U idx l) (L : Store) (hL : KeyedEq L (ledgerOfChain D l)) :
    ∃ L', followL U D (C01.run U Mgr.init hist) chunks idx L = some (some (C01.run U Mgr.init hist).tip, L') ∧
      KeyedEq L' (ledgerOfChain D (C01.run U Mgr.init hist).best) := by
  have hf := follow_converges hU hist chunks idx hs hc hmu
  obtain ⟨L', l'', g1, g2, g3⟩ := followL_spec hU D hD hist chunks idx _ l L hs hl hL hf
  have := ChainTo.unique g2 (best_is_chain_of_tip hU hist)
  subst this
  exact ⟨L', g1, g3⟩

/-! non-vacuity: the reorg universe `Ure` with diffs — block 1 creates coin 11 and contract 21,
block 2 spends 11 and revises 21 (window 5 → 6), block 3 creates 13, block 4 spends 13 -/
def Dre : Nat → List Diff := fun b =>
  if b = 0 then [⟨.sc, 10, true, false, 0, 0, none⟩]
  else if b = 1 then [⟨.sc, 11, true, false, 0, 0, none⟩, ⟨.fc, 21, true, false, 5, 0, none⟩]
  else if b = 2 then [⟨.sc, 11, false, true, 0, 0, none⟩, ⟨.sc, 12, true, false, 0, 0, none⟩, ⟨.fc, 21, false, false, 5, 0, some (6, 1)⟩]
  else if b = 3 then [⟨.sc, 13, true, false, 0, 0, none⟩]
  else if b = 4 then [⟨.sc, 13, false, true, 0, 0, none⟩, ⟨.sc, 14, true, false, 0, 0, none⟩]
  else []

/-- the subscriber that had folded blocks 0,1,2 and is walked back over 2 and forward over 3, 4
ends with the ledger of the chain 0,1,3,4: coin 11 and contract 21 (window 5, revision 0) are
back, 12 is gone -/
example :
    let L := foldUpd Dre (ledgerOfChain Dre [2, 1, 0]) [.revert 2, .apply 3, .apply 4]
    (L.sc 11, L.sc 12, L.sc 13, L.sc 14, L.fc 21) = (true, false, false, true, some (5, 0)) ∧
    ((ledgerOfChain Dre [4, 3, 1, 0]).sc 11, (ledgerOfChain Dre [4, 3, 1, 0]).fc 21) = (true, some (5, 0)) ∧
    (ledgerOfChain Dre [2, 1, 0]).fc 21 = some (6, 1) := by decide

example : Verif.Elements.WF (ledgerOfChain Dre [1, 0]) (Dre 2) ∧ Verif.Elements.WF (ledgerOfChain Dre [3, 1, 0]) (Dre 4) := by
  decide


/-! ### reorg listeners come and go (`OnReorg` / its cancel function)

`notified_iff_tip_changed` above says WHEN the listeners are called; these say WHO is called.  The
128-bit random key of a registration is a parameter of the model; `Fresh` is the assumption that
no key is handed out twice (collision probability 2⁻¹²⁸ per pair). -/

open Verif.Listeners in
/-- **who is notified**: after any history of registrations and cancellations with fresh keys,
the listeners called on a tip change are exactly the live registrations — a registration that
was not cancelled is called, whatever other listeners did before or after it (in particular a
later registration never displaces it), and a cancelled one is not (in the third conjunct the
right disjunct is the cancel of a key that was never handed out) -/
theorem listeners_exactly_live (ops : List Op) (hf : Fresh [] ops) :
    (run Reg.empty ops).entries = specRun [] ops ∧
    (∀ pre post k l, ops = pre ++ Op.reg k l :: post → (∀ k', Op.cancel k' ∈ post → k' ≠ k) →
      l ∈ (run Reg.empty ops).notified) ∧
    (∀ pre post k, ops = pre ++ Op.cancel k :: post →
      ∀ e ∈ (run Reg.empty ops).entries, e.1 ≠ k ∨ k ∉ regKeys pre) := by
  have href := run_eq_spec ops Reg.empty [] (by simp [Reg.empty]) hf
  refine ⟨href, ?_, ?_⟩
  · intro pre post k l hops hc
    have : (k, l) ∈ specRun [] ops := by
      subst hops
      simp only [specRun, List.foldl_append, List.foldl_cons]
      exact spec_keeps post _ (k, l) (by simp [specStep]) (by simpa using hc)
    rw [Reg.notified, href]
    exact List.mem_map.mpr ⟨(k, l), this, rfl⟩
  · intro pre post k hops e he
    by_cases hk : k ∈ regKeys pre
    · left
      -- the key was handed out before the cancel: after the cancel no entry carries it
      subst hops
      rw [href] at he
      simp only [specRun, List.foldl_append, List.foldl_cons] at he
      exact spec_drops post _ _ k (fun e' he' => by simpa [specStep] using (List.mem_filter.mp he').2)
        (List.mem_append_left _ (List.mem_reverse.mpr hk)) hf.append e he
    · exact Or.inr hk

open Verif.Listeners in
/-- the premises are satisfiable and the statement is not vacuous: A and B register, A cancels,
C registers — B and C are called, A is not -/
example : Fresh [] [.reg 10 0, .reg 11 1, .cancel 10, .reg 12 2] ∧
    (run Reg.empty [.reg 10 0, .reg 11 1, .cancel 10, .reg 12 2]).notified = [2, 1] := by
  refine ⟨by simp [Fresh], by decide⟩

open Verif.Listeners in
/-- **freshness is needed** (the shape of a seeded faulty variant): if the key is derived from
the size of the map, the same history makes C take B's key and B is never called again -/
theorem size_keys_displace_a_listener :
    let r1 := Reg.empty.register (sizeKey Reg.empty) 0
    let r2 := r1.register (sizeKey r1) 1
    let r3 := r2.cancel (sizeKey Reg.empty)
    let r4 := r3.register (sizeKey r3) 2
    r4.notified = [2] ∧ 1 ∉ r4.notified := by decide

end Verif.C04
