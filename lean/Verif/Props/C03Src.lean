/-
C03, source tie: the order of store writes inside one commit unit that the crash model
(`Verif/Model/Commit.lean`) assumes — `applyTip` records a block's state and supplement
(`AddState`, `AddBlock`) BEFORE `Store.ApplyBlock` (which may flush), `revertTip` reverts in the
store before the tip moves, `reorgTo` flushes once at its end and returns the flush error.
-/
import Verif.Extracted.ChainSkel
import Verif.Extracted.DBSkel

namespace Verif.C03Src
open Verif.Skel Verif.Extracted

/-- in `applyTip` the block's state and supplement are recorded before `Store.ApplyBlock` -/
theorem src_applyTip_records_before_apply :
    firstBefore (isCall "m.store.AddState") (isCall "m.store.ApplyBlock") skel_applyTip = true ∧
    firstBefore (isCall "m.store.AddBlock") (isCall "m.store.ApplyBlock") skel_applyTip = true ∧
    (callNames skel_applyTip).count "m.store.ApplyBlock" = 1 ∧
    (callNames skel_applyTip).count "m.store.AddBlock" = 1 := by decide +kernel

/-- `reorgTo` flushes exactly once, after both loops, and returns a flush error -/
theorem src_reorgTo_flushes_last :
    firstBefore (isCall "m.applyTip") (isCall "m.store.Flush") skel_reorgTo = true ∧
    firstBefore (isCall "m.revertTip") (isCall "m.store.Flush") skel_reorgTo = true ∧
    hasInfix [isCall "m.store.Flush", isErrCheck, isRet ["E"]] skel_reorgTo = true ∧
    (callNames skel_reorgTo).count "m.store.Flush" = 1 := by decide +kernel

/-- `AddBlocks` records the header-level state before the block (`AddState` then `AddBlock`), per
block, and does not flush itself -/
theorem src_addblocks_state_before_block :
    hasInfix [isCall "m.store.AddState", isCall "m.store.AddBlock"] skel_AddBlocks = true ∧
    occurs (isCall "m.store.Flush") skel_AddBlocks = false := by decide +kernel

/-- `revertTip`: store revert, then pool, then the tip -/
theorem src_revertTip_order :
    firstBefore (isCall "m.store.RevertBlock") isSet skel_revertTip = true := by decide +kernel


/-! ### the store's side of a commit unit (`chain/db.go`) -/

/-- `applyState` / `revertState`: the best-chain index entry of the block is written / DELETED
(not overwritten, not left behind) and the height marker moved -/
theorem src_store_state_index :
    skel_DBStore_applyState = [.call "db.putBestIndex" [], .call "db.putHeight" []] ∧
    skel_DBStore_revertState = [.call "db.deleteBestIndex" [], .call "db.putHeight" []] := ⟨rfl, rfl⟩

def isRequireGuard : Tok → Bool
  | .ifc ["db.n.HardforkV2.RequireHeight"] ["<="] => true
  | _ => false

/-- `ApplyBlock`: index first, elements only up to the v2 require height, then the time/size
flush (a failed flush panics); `RevertBlock`: elements under the same guard, the index
UNCONDITIONALLY (outside the guard), then the flush -/
theorem src_store_apply_revert_block :
    skel_DBStore_ApplyBlock = [.call "db.applyState" [], .ifc ["db.n.HardforkV2.RequireHeight"] ["<="],
      .call "db.applyElements" [], .done, .call "db.shouldFlush" [], .ifc ["db.shouldFlush()"] [],
      .call "db.Flush" [], .ifc [] ["!="], .panic, .done, .done] ∧
    skel_DBStore_RevertBlock = [.ifc ["db.n.HardforkV2.RequireHeight"] ["<="], .call "db.revertElements" [], .done,
      .call "db.revertState" [], .call "db.shouldFlush" [], .ifc ["db.shouldFlush()"] [],
      .call "db.Flush" [], .ifc [] ["!="], .panic, .done, .done] ∧
    guardedBy (isCall "db.revertState") isRequireGuard skel_DBStore_RevertBlock = false := by decide +kernel

/-- `DBStore.Flush`: nothing to do when nothing is unflushed, else the backend's flush, the
counters reset, the backend's error returned -/
theorem src_store_flush :
    skel_DBStore_Flush = [.ifc ["db.unflushed"] ["=="], .ret ["nil"], .done, .call "db.db.Flush" [],
      .set "db.unflushed", .set "db.lastFlush", .ret ["E"]] := rfl

end Verif.C03Src
