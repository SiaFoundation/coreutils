/-
C12 — honest connected nodes converge to the same heaviest chain.

Property theorems only (helper lemmas: `Lemmas/Sync.lean`, `Lemmas/SyncRound.lean`, model:
`Model/Sync.lean`).  The theorems are about an **abstract gossip system**: any number `N` of
nodes, each holding a tip of one shared block universe, an arbitrary "pulls from" relation, and a
step "node `i` obtains the best chain of `j` and submits it to its manager", which by
`Manager.AddBlocks` moves `i` iff `j`'s chain is *sufficiently heavier* (`heavier`,
consensus/state.go:217-238).  Runs are infinite schedules; liveness is proved for every **fair**
schedule.  That one real sync round against an honest peer (history sample → headers → batches →
manager) is such a step is `honest_round_is_pull`, in the last part of the file; network timing
is not modelled, and on the implementation "eventually" is observed as "within a deadline".
-/
import Verif.Lemmas.Sync
import Verif.Lemmas.SyncRound

namespace Verif.C12
open Verif.Sync

/-- **decisive class**: in a connected system, if the chain held by node `m` is sufficiently
heavier than every other tip present, then under *every* fair schedule there is a time after
which every node is on that chain, forever.  (Measure: the number of nodes not on it —
`Sync.converge_measure`; a node on it never leaves, every tip present is an initial
tip, and a boundary edge exists by connectivity and fires by fairness.) -/
theorem converge_decisive (U : Univ) (N : Nat) (adj : Nat → Nat → Prop) (σ0 : Nat → Nat) (m : Nat)
    (hdec : ∀ i, i < N → σ0 i ≠ σ0 m → heavier U (σ0 m) (σ0 i) = true)
    (hconn : ∀ i, i < N → Reach adj N m i)
    (sched : Nat → Nat × Nat) (hr : InRange N sched) (hfair : Fair adj sched) :
    ∃ K, ∀ k, K ≤ k → ∀ i, i < N → runSched U σ0 sched k i = σ0 m := by
  have hg : Good U (σ0 m) N σ0 := hdec
  obtain ⟨K, _, hz⟩ := converge_measure U hg hr rfl hconn hfair (cnt (σ0 m) N σ0) 0 (Nat.le_refl _)
  refine ⟨K, fun k hk i hi => ?_⟩
  exact run_stay U hg hr hk (cnt_zero hz i hi)

/-- the part of the TARGET `C12_converge_full` (below) that holds of the code: convergence to
*some* common tip, under the decisiveness hypothesis -/
theorem converge_partial (U : Univ) (N : Nat) (adj : Nat → Nat → Prop) (σ0 : Nat → Nat) (m : Nat)
    (hdec : ∀ i, i < N → σ0 i ≠ σ0 m → heavier U (σ0 m) (σ0 i) = true)
    (hconn : ∀ i, i < N → Reach adj N m i)
    (sched : Nat → Nat × Nat) (hr : InRange N sched) (hfair : Fair adj sched) :
    ∃ K t, ∀ k, K ≤ k → ∀ i, i < N → runSched U σ0 sched k i = t :=
  let ⟨K, h⟩ := converge_decisive U N adj σ0 m hdec hconn sched hr hfair
  ⟨K, σ0 m, h⟩

/-- throughout any run (fair or not) no node's tip ever loses work -/
theorem gossip_work_mono (U : Univ) (σ0 : Nat → Nat) (sched : Nat → Nat × Nat) (k i : Nat) :
    (U (runSched U σ0 sched k i)).work ≤ (U (runSched U σ0 sched (k + 1) i)).work := by
  show _ ≤ (U (pull U (runSched U σ0 sched k) (sched k) i)).work
  unfold pull
  split
  · rename_i h; obtain ⟨rfl, hh⟩ := h; exact Nat.le_of_lt (heavier_work hh)
  · exact Nat.le_refl _

/-- **near-tie class**: if no tip present is sufficiently heavier than another (all pairwise
differences are within a fifth of the difficulty), no node ever moves, under any schedule. -/
theorem near_tie_no_convergence (U : Univ) (N : Nat) (σ0 : Nat → Nat)
    (h : ∀ i j, i < N → j < N → heavier U (σ0 i) (σ0 j) = false)
    (sched : Nat → Nat × Nat) (hr : InRange N sched) :
    ∀ k i, i < N → runSched U σ0 sched k i = σ0 i := by
  intro k
  induction k with
  | zero => intro i _; rfl
  | succ k ih =>
    intro i hi
    show pull U (runSched U σ0 sched k) (sched k) i = σ0 i
    unfold pull
    split
    · rename_i hc
      obtain ⟨rfl, hh⟩ := hc
      rw [ih _ (hr k).1, ih _ (hr k).2, h _ _ (hr k).2 (hr k).1] at hh
      cases hh
    · exact ih i hi

/-- TARGET (the property as stated: convergence without the decisiveness hypothesis).  It is
**false** of the code by design of its chain-selection rule — see `converge_full_false`. -/
def C12_converge_full : Prop :=
  ∀ (U : Univ) (N : Nat) (adj : Nat → Nat → Prop) (σ0 : Nat → Nat) (m : Nat),
    (∀ i, i < N → Reach adj N m i) →
    ∀ sched : Nat → Nat × Nat, InRange N sched → Fair adj sched →
      ∃ K t, ∀ k, K ≤ k → ∀ i, i < N → runSched U σ0 sched k i = t

/-- two sibling blocks (1 and 2) whose works, 20 and 21, differ by less than a fifth of the
difficulty 10: neither is sufficiently heavier than the other -/
def tieU : Univ := fun i =>
  match i with
  | 0 => ⟨0, 0, 0, 10, 10, true, true, true, true, false, false⟩
  | 1 => ⟨0, 1, 1, 20, 10, true, true, true, true, false, false⟩
  | _ => ⟨0, 2, 1, 21, 10, true, true, true, true, false, false⟩

def twoAdj : Nat → Nat → Prop := fun i j => (i = 0 ∧ j = 1) ∨ (i = 1 ∧ j = 0)
def twoSched : Nat → Nat × Nat := fun k => if k % 2 = 0 then (0, 1) else (1, 0)

theorem twoSched_inRange : InRange 2 twoSched := by
  intro k; unfold twoSched; split <;> simp

theorem twoSched_fair : Fair twoAdj twoSched := by
  intro i j h k
  rcases h with ⟨rfl, rfl⟩ | ⟨rfl, rfl⟩
  · exact ⟨2 * k, by omega, by simp [twoSched]⟩
  · exact ⟨2 * k + 1, by omega, by simp [twoSched]⟩

theorem two_connected : ∀ i, i < 2 → Reach twoAdj 2 0 i := by
  intro i hi
  match i, hi with
  | 0, _ => exact .base
  | 1, _ => exact .step .base (by omega) (by omega) (.inr ⟨rfl, rfl⟩)

/-- two connected nodes on sibling tips whose works differ by 1 ≤ 10/5 never agree, although
both are scheduled forever -/
theorem converge_full_false : ¬ C12_converge_full := by
  intro h
  obtain ⟨K, t, hK⟩ := h tieU 2 twoAdj (fun i => i + 1) 0 two_connected twoSched twoSched_inRange twoSched_fair
  have hnt := near_tie_no_convergence tieU 2 (fun i => i + 1)
    (by intro i j hi hj
        match i, j, hi, hj with
        | 0, 0, _, _ | 0, 1, _, _ | 1, 0, _, _ | 1, 1, _, _ => decide)
    twoSched twoSched_inRange K
  have h0 := hK K (Nat.le_refl _) 0 (by omega)
  have h1 := hK K (Nat.le_refl _) 1 (by omega)
  rw [hnt 0 (by omega)] at h0
  rw [hnt 1 (by omega)] at h1
  omega

/-- **the exponentially spaced history sample always contains a common block**: for a chain
`a` (tip first, ending in genesis) of at most `7 + 2^23 + 1` blocks and any chain `b` containing
genesis, the first history entry of `a` that is on `b` exists and is on both chains — so the
header request of `syncLoop` succeeds at the latest on its last history entry.  (Beyond that
length the 32-entry sample of the code no longer reaches genesis; this bound is the code's.) -/
theorem history_finds_ancestor (a b : List Nat) (hne : a ≠ []) (ha : a.getLast hne = 0) (hb : 0 ∈ b)
    (hlen : a.length ≤ 8388616) :
    ∃ x, (history a).find? (fun id => b.contains id) = some x ∧ x ∈ a ∧ x ∈ b := by
  have h0 : (0 : Nat) ∈ history a := ha ▸ last_mem_history a hne (histOffset_31 ▸ hlen)
  cases hf : (history a).find? (fun id => b.contains id) with
  | none =>
    rw [List.find?_eq_none] at hf
    exact absurd (by simpa using hb) (hf 0 h0)
  | some x =>
    refine ⟨x, rfl, mem_of_mem_history a hne (List.mem_of_find?_eq_some hf), ?_⟩
    simpa using List.find?_some hf

/-- the first history entry is the tip itself (so a peer that is ahead on the same chain
answers the very first request) -/
theorem history_head (a : List Nat) : (history a).head? = some (a.getD 0 0) := by
  rw [history, List.head?_map, List.head?_range]
  simp [histOffset]

/-! ### the concrete round: gates + manager instead of the abstract pull

In an honest network (every block of the universe valid — `AllValid` —, arbitrary forks) node
`i`'s `syncLoop` iteration against node `j` is `honestRound`: history sample, `SendHeaders` from
the first entry `j` recognises (found by `history_finds_ancestor`), the request split,
`SendCheckpoint`/`SendV2Blocks`, the gates of C11, `AddBlocks`/`AddValidatedV2Blocks` of the
minimal manager, both sides running the model. -/

/-- **one real sync round against an honest peer is one abstract pull step**: the node's best
chain becomes the peer's iff the peer's tip is sufficiently heavier than its own tip, otherwise
it is unchanged; the node invariant (best chain parent-linked from genesis, applied, stored;
stored blocks closed under parents) is kept. -/
theorem honest_round_is_pull (U : Univ) (cfg : Cfg) (av : AllValid U cfg) (n : Node) (h : NodeOK U n)
    (pb : List Nat) (hpb : IsChain U pb) (hlen : n.best.length ≤ 8388616) :
    NodeOK U (honestRound U cfg n pb) ∧
    (honestRound U cfg n pb).best = (if heavier U (pb.headD 0) n.tip then pb else n.best) :=
  honestRound_spec av h hpb hlen

/-- the concrete system (`runSchedC`: every step is a real round) and the abstract one (`runSched`:
every step is a pull) agree on every node's tip at every time, for every schedule -/
theorem concrete_refines_abstract (U : Univ) (cfg : Cfg) (av : AllValid U cfg) (hbd : HeightBound U)
    (σ0 : Nat → Node) (h0 : ∀ x, NodeOK U (σ0 x)) (sched : Nat → Nat × Nat) (k x : Nat) :
    NodeOK U (runSchedC U cfg σ0 sched k x) ∧
    (runSchedC U cfg σ0 sched k x).tip = runSched U (fun y => (σ0 y).tip) sched k x :=
  runSchedC_spec av hbd h0 sched k x

/-- **`converge_decisive` for the concrete round function**: any number of honest nodes holding
arbitrary best chains, any connected "syncs from" relation, every fair schedule of real rounds:
if node `m`'s chain is sufficiently heavier than every other tip, there is a time after which
every node's **best chain** is `m`'s chain, forever. -/
theorem converge_decisive_concrete (U : Univ) (cfg : Cfg) (av : AllValid U cfg) (hbd : HeightBound U)
    (N : Nat) (adj : Nat → Nat → Prop) (σ0 : Nat → Node) (h0 : ∀ x, NodeOK U (σ0 x)) (m : Nat)
    (hdec : ∀ i, i < N → (σ0 i).tip ≠ (σ0 m).tip → heavier U (σ0 m).tip (σ0 i).tip = true)
    (hconn : ∀ i, i < N → Reach adj N m i)
    (sched : Nat → Nat × Nat) (hr : InRange N sched) (hfair : Fair adj sched) :
    ∃ K, ∀ k, K ≤ k → ∀ i, i < N → (runSchedC U cfg σ0 sched k i).best = (σ0 m).best := by
  obtain ⟨K, hK⟩ := converge_decisive U N adj (fun y => (σ0 y).tip) m hdec hconn sched hr hfair
  refine ⟨K, fun k hk i hi => ?_⟩
  obtain ⟨ok, ht⟩ := concrete_refines_abstract U cfg av hbd σ0 h0 sched k i
  rw [hK k hk i hi] at ht
  exact ok.best_eq (h0 m).chain (by rw [(h0 m).tip_head, ht])

/-! ### non-vacuity -/

/-- an honest universe: 0 ← 1 ← 2 and a fork 0 ← 3 (every other id is a sibling of 3); require
height 1 (so the second request of a round goes through the checkpoint path); a node on [3, 0]
syncing from a peer on [2, 1, 0] with one block per request adopts the peer's chain -/
def honU : Univ := fun i =>
  match i with
  | 0 => ⟨0, 0, 0, 10, 10, true, true, true, true, false, false⟩
  | 1 => ⟨0, 1, 1, 20, 10, true, true, true, true, true, false⟩
  | 2 => ⟨1, 2, 2, 30, 10, true, true, true, true, true, false⟩
  | n + 3 => ⟨0, n + 3, 1, 21, 10, true, true, true, true, true, false⟩

/-- the hypotheses of the round theorems are satisfiable -/
theorem honU_allValid : AllValid honU ⟨1, 1⟩ := by
  refine ⟨rfl, rfl, ?_, ?_, ?_, ?_, ?_, ?_, ?_, ?_, by decide⟩
  all_goals
    rintro (_ | _ | _ | _)
    all_goals simp [honU]

example : (honestRound honU ⟨1, 1⟩ ⟨[3, 0], [3, 0], [3, 0]⟩ [2, 1, 0]).best = [2, 1, 0] := by decide
example : (honestRound honU ⟨1, 1⟩ ⟨[2, 1, 0], [2, 1, 0], [2, 1, 0]⟩ [3, 0]).best = [2, 1, 0] := by decide

/-- a decisive instance: node 1's tip (block 2, work 40) is sufficiently heavier than node 0's
(block 1, work 20, difficulty 10): every fair run converges to block 2 -/
def decU : Univ := fun i =>
  match i with
  | 0 => ⟨0, 0, 0, 10, 10, true, true, true, true, false, false⟩
  | 1 => ⟨0, 1, 1, 20, 10, true, true, true, true, false, false⟩
  | _ => ⟨0, 2, 1, 40, 10, true, true, true, true, false, false⟩

example : ∃ K, ∀ k, K ≤ k → ∀ i, i < 2 → runSched decU (fun i => i + 1) twoSched k i = 2 := by
  have hconn : ∀ i, i < 2 → Reach twoAdj 2 1 i := by
    intro i hi
    match i, hi with
    | 1, _ => exact .base
    | 0, _ => exact .step .base (by omega) (by omega) (.inl ⟨rfl, rfl⟩)
  exact converge_decisive decU 2 twoAdj (fun i => i + 1) 1
    (by intro i hi hne
        match i, hi with
        | 0, _ => decide
        | 1, _ => exact absurd rfl hne)
    hconn twoSched twoSched_inRange twoSched_fair

/-- and it does so after one step of the concrete schedule -/
example : runSched decU (fun i => i + 1) twoSched 1 0 = 2 ∧ runSched decU (fun i => i + 1) twoSched 1 1 = 2 := by
  decide

/-- the history sample of a 40-block chain: tip, the nine blocks below it, then exponentially
spaced heights down to genesis -/
example : history ((List.range 40).reverse) =
    [39, 38, 37, 36, 35, 34, 33, 32, 31, 30, 28, 24, 16, 0, 0, 0, 0, 0, 0, 0, 0, 0, 0, 0, 0, 0, 0, 0, 0, 0, 0, 0] := by
  decide

end Verif.C12
