/-
C03 — every durable commit point reopens to a consistent chain and catches up.

Property theorems only; the model is `Verif/Model/Commit.lean` (the M3 node of
`Verif/Model/Elements.lean` behind a durable/pending split, at the granularity of the write
groups of one block), helper lemmas in `Verif/Lemmas/Commit.lean`.

"The process stops at any moment" is a cut of the micro-op stream at an arbitrary position `k`.
A commit is issued only at the end of `ApplyBlock` / `RevertBlock` (`shouldFlush`) or at the end
of `reorgTo`; `compile` is that discipline.  `harness/c03` ties it to the code: a recording
`chain.DB` snapshots the committed image at every `Flush`, `VerifForceFlushNext` is armed after
every block boundary of every reorg, every snapshot is reopened with `NewDBStore`+`NewManager`,
audited and caught up, and the model predicts the tip of every commit point.
-/
import Verif.Lemmas.Commit
import Verif.Lemmas.Catchup
import Verif.Props.C01
import Verif.Props.C02

namespace Verif.C03
open Verif.Elements Verif.Commit

/-- the durable image when the process stops after `k` micro-ops of the history `ops` -/
def durableAt (n0 : Node) (ops : List BOp) (k : Nat) : Node :=
  ((Sys.init n0).exec ((compile ops).take k)).durable

/-- **never a torn block**: wherever the process stops, the durable image is the image the node
had at some block boundary of the history -/
theorem durable_is_block_prefix (n0 : Node) (ops : List BOp) (k : Nat) :
    ∃ j, j ≤ ops.length ∧ durableAt n0 ops k = blockRun n0 (ops.take j) :=
  durable_eq_blockRun n0 ops k

/-- hence the tip a reopened database reports is a tip the node actually had -/
theorem durable_tip_was_a_tip (n0 : Node) (ops : List BOp) (k : Nat) :
    ∃ j, j ≤ ops.length ∧ (durableAt n0 ops k).tip = (blockRun n0 (ops.take j)).tip := by
  obtain ⟨j, hj, h⟩ := durable_is_block_prefix n0 ops k
  exact ⟨j, hj, by rw [h]⟩

/-- **mutually consistent** (partial: `ExpStable` reverts, see C02): the durable image is exactly
the store a linear replay of *its own* tip's ancestry produces — height key, best index, element
sets and expiration lists all belong to that one tip. -/
theorem durable_consistent_partial (req : Nat) (U : Nat → BlkInfo) (hU : WFU U) (hB : WFBlocks req U)
    (ops : List BOp) (n : Node) (hrun : (Node.init req U).run (toOps ops) = some n)
    (hs : RevertsStable req U (Node.init req U) (toOps ops)) (k : Nat) :
    (durableAt (Node.init req U) ops k).store = lin req U (durableAt (Node.init req U) ops k).tip :=
  (durable_inv hU hB ops n hrun hs k).store_eq

/-- **recover, then catch up** (partial): reopen the durable image of any stopping point and run
any continuation (the manager's reverts and applies while the remaining blocks are resubmitted);
if it ends on the tip of the uninterrupted run, it ends with the same store.  Side conditions,
both explicit: (a) reverted blocks are `ExpStable` in both runs (C02's known class otherwise);
(b) that the continuation *reaches the same tip* is the manager's chain selection (C01's model
and, for the resubmission schedule, the implementation-side check of `harness/c03`). -/
theorem recover_then_catchup_partial (req : Nat) (U : Nat → BlkInfo) (hU : WFU U) (hB : WFBlocks req U)
    (ops : List BOp) (nU : Node) (hrun : (Node.init req U).run (toOps ops) = some nU)
    (hs : RevertsStable req U (Node.init req U) (toOps ops)) (k : Nat)
    (ops2 : List Elements.Op) (nR : Node)
    (hrec : (durableAt (Node.init req U) ops k).run ops2 = some nR)
    (hs2 : RevertsStable req U (durableAt (Node.init req U) ops k) ops2)
    (htip : nR.tip = nU.tip) :
    nR.store = nU.store := by
  have hiU := inv_run hU hB _ _ nU (inv_init req U hU) hs hrun
  have hiR := inv_run hU hB ops2 _ nR (durable_inv hU hB ops nU hrun hs k) hs2 hrec
  rw [hiR.store_eq, hiU.store_eq, htip]

/-- TARGET (false of the current code, for C02's reason): the same without side condition (a) -/
def C03_recover_then_catchup_full : Prop :=
  ∀ (req : Nat) (U : Nat → BlkInfo), WFU U → WFBlocks req U →
    ∀ (ops : List BOp) (nU : Node), (Node.init req U).run (toOps ops) = some nU →
      ∀ (k : Nat) (ops2 : List Elements.Op) (nR : Node),
        (durableAt (Node.init req U) ops k).run ops2 = some nR → nR.tip = nU.tip → nR.store = nU.store

/-- the uninterrupted history of the witness: block 1 applied and committed, then the reorg
2 → 3 inside one uncommitted window -/
def wHist : List BOp := [.apply 1 true, .apply 2 false, .revert false, .apply 3 false, .flush]

theorem recover_then_catchup_full_false : ¬ C03_recover_then_catchup_full := by
  intro h
  -- stop right after the first commit (4 micro-ops), reopen, apply block 3
  obtain ⟨nU, hu, hU⟩ := Option.map_eq_some_iff.mp
    (show ((Node.init 100 C02.wU).run (toOps wHist)).map (fun n => (n.tip, n.store.exp 5)) = some (3, [2, 1]) by
      decide)
  obtain ⟨nR, hr, hR⟩ := Option.map_eq_some_iff.mp
    (show ((durableAt (Node.init 100 C02.wU) wHist 4).run [.apply 3]).map (fun n => (n.tip, n.store.exp 5))
      = some (3, [1, 2]) by decide)
  rw [Prod.mk.injEq] at hU hR
  have := h 100 C02.wU C02.wU_wf C02.wU_blocks wHist nU hu 4 [.apply 3] nR hr (hR.1.trans hU.1.symm)
  rw [this, hU.2] at hR
  exact absurd hR.2 (by decide)

/-- a history with a mid-reorg commit: block 1; then the reorg 4 → 3 with a forced flush after the
revert of 4.  Stopping after 8 micro-ops (inside the application of block 3) leaves the image of
the boundary after the revert: tip 1. -/
def wHist2 : List BOp := [.apply 1 false, .apply 4 false, .flush, .revert true, .apply 3 false, .flush]

example : (durableAt (Node.init 100 C02.wU) wHist2 0).tip = 0 ∧
    (durableAt (Node.init 100 C02.wU) wHist2 7).tip = 4 ∧
    (durableAt (Node.init 100 C02.wU) wHist2 10).tip = 1 ∧
    (durableAt (Node.init 100 C02.wU) wHist2 12).tip = 1 ∧
    (durableAt (Node.init 100 C02.wU) wHist2 14).tip = 3 := by decide

example : ((Node.init 100 C02.wU).run (toOps wHist2)).isSome = true ∧
    revertsStableB 100 C02.wU (Node.init 100 C02.wU) (toOps wHist2) = true := by decide

/-- and the catch-up from the mid-reorg image reaches the uninterrupted store -/
example : ((durableAt (Node.init 100 C02.wU) wHist2 12).run [.apply 3]).map (fun n => n.store.exp 5)
    = ((Node.init 100 C02.wU).run (toOps wHist2)).map (fun n => n.store.exp 5) := by decide

/-! ### catch-up at the level of the manager (M2): which chain the resubmission ends on

The store-level theorem above leaves "the continuation reaches the uninterrupted tip" to the
manager.  Here it is discharged with the manager model of C01 (`Verif/Model/Chain.lean`,
`C01.run`).  The catch-up schedule is: **the batches of the original history from the interrupted
one on, in their original order and batching** (`hist.drop j`), submitted to the reopened manager.

* A commit at a batch boundary (the end of `reorgTo`) makes everything before it durable, so the
  reopened manager is `run (hist.take j)`: the catch-up reproduces the uninterrupted manager
  exactly, with no side condition (`catchup_from_batch_boundary`).
* A commit inside the reorg of batch `j` leaves a manager `m'` on an intermediate tip.  The
  resubmitted batch ends on the same best chain as in the uninterrupted run provided it returns
  no error and its last block is sufficiently heavier than the reopened tip
  (`catchup_interrupted_batch_best`).  The negation of the second hypothesis is the known class
  `catchup-near-tie-first-seen`.  When the first fails (the resubmitted batch offers a chain with
  an invalid block: the process had stopped inside a reorg that was going to fail) the node rolls
  back to the reopened transient tip; it is brought back by offering the earlier batches again —
  the branch the uninterrupted run returned to is stored with supplements and sufficiently heavier —
  which `harness/c03` checks on the implementation (`catchup-stays-on-lighter-chain`).  The
  notification counter is the only part of the manager that is not stored, and nothing
  `AddBlocks` decides depends on it (`addBlocks_setN`), so from then on both managers stay in
  agreement for the rest of the schedule (`catchup_mid_reorg_partial`).  Still a hypothesis there:
  that after the interrupted batch the two managers hold the same block records and states (the
  blocks the interrupted reorg had already validated are the ones the resubmission skips). -/

open Verif.Chain in
/-- two managers that agree on everything stored end every further history in agreement -/
theorem run_sameStored (U : Nat → Blk) (hist : List (List Nat)) :
    ∀ a b : Mgr, SameStored a b → SameStored (C01.run U a hist) (C01.run U b hist) := by
  induction hist with
  | nil => intro a b h; exact h
  | cons x xs ih => intro a b h; exact ih _ _ (addBlocks_sameStored U h x).1

open Verif.Chain in
/-- **catch-up from a batch-boundary commit is exact**: for every history and every `j`,
resubmitting the batches from `j` on to the manager as it was after the first `j` batches gives
the manager of the uninterrupted run — same best chain, records, states, notifications. -/
theorem catchup_from_batch_boundary (U : Nat → Blk) (hist : List (List Nat)) (j : Nat) :
    C01.run U (C01.run U Mgr.init (hist.take j)) (hist.drop j) = C01.run U Mgr.init hist := by
  rw [← C01.run_append, List.take_append_drop]

open Verif.Chain in
/-- the interrupted batch on the reopened manager (any manager satisfying the manager invariant,
e.g. any mid-reorg image) ends on the uninterrupted run's best chain outside the two known classes -/
theorem catchup_interrupted_batch_best {U : Nat → Blk} (hU : Verif.Chain.WFU U) (pre : List (List Nat))
    (m' : Mgr) (h' : Verif.Chain.Inv U m') (b : Nat) (bs : List Nat)
    (hok : (addBlocks U (C01.run U Mgr.init pre) (b :: bs)).2 = none)
    (hh : heavier U (bs.getLastD b) (C01.run U Mgr.init pre).tip = true)
    (hok' : (addBlocks U m' (b :: bs)).2 = none)
    (hh' : heavier U (bs.getLastD b) m'.tip = true) :
    (addBlocks U m' (b :: bs)).1.best = (addBlocks U (C01.run U Mgr.init pre) (b :: bs)).1.best :=
  catchup_interrupted_batch hU (C01.inv_reachable hU pre) h' b bs hok hh hok' hh'

open Verif.Chain in
/-- **recover, then catch up, at the manager level** (partial): history `pre ++ (b :: bs) :: rest`,
the process stops inside the reorg of batch `b :: bs` and reopens as `m'`.  Outside the two known
classes (hypotheses `hok'`, `hh'`) and given that the resubmitted batch leaves the same block
records and states (`hrecs`, `hstates`), the catch-up ends on exactly the best chain of the
uninterrupted run, whatever the remaining batches are. -/
theorem catchup_mid_reorg_partial {U : Nat → Blk} (hU : Verif.Chain.WFU U) (pre rest : List (List Nat))
    (m' : Mgr) (h' : Verif.Chain.Inv U m') (b : Nat) (bs : List Nat)
    (hok : (addBlocks U (C01.run U Mgr.init pre) (b :: bs)).2 = none)
    (hh : heavier U (bs.getLastD b) (C01.run U Mgr.init pre).tip = true)
    (hok' : (addBlocks U m' (b :: bs)).2 = none)
    (hh' : heavier U (bs.getLastD b) m'.tip = true)
    (hrecs : (addBlocks U m' (b :: bs)).1.recs = (addBlocks U (C01.run U Mgr.init pre) (b :: bs)).1.recs)
    (hstates : (addBlocks U m' (b :: bs)).1.states = (addBlocks U (C01.run U Mgr.init pre) (b :: bs)).1.states) :
    (C01.run U m' ((b :: bs) :: rest)).best = (C01.run U Mgr.init (pre ++ (b :: bs) :: rest)).best := by
  have hb := catchup_interrupted_batch_best hU pre m' h' b bs hok hh hok' hh'
  rw [C01.run_append]
  simp only [C01.run]
  exact (run_sameStored U rest _ _ ⟨hrecs, hstates, hb⟩).2.2

/-- non-vacuity (C01's reorg universe `Ure` of C04 is not imported here; use `C01.Uex`): the
reopened manager after `[[1, 2]]` catches up with `[[6]]` exactly -/
example : C01.run C01.Uex (C01.run C01.Uex Verif.Chain.Mgr.init [[1, 2]]) [[6]] =
    C01.run C01.Uex Verif.Chain.Mgr.init [[1, 2], [6]] :=
  catchup_from_batch_boundary C01.Uex [[1, 2], [6]] 1

/-- non-vacuity of `catchup_interrupted_batch_best` / `catchup_mid_reorg_partial`: a universe with a
real reorg (1-2 best, then 3-4 takes over), the process stopping right after block 2 was reverted -/
def wUre : Nat → Verif.Chain.Blk
  | 1 => ⟨0, 1, 200, 100, true, true, false, false⟩
  | 2 => ⟨1, 2, 300, 100, true, true, false, false⟩
  | 3 => ⟨1, 2, 301, 100, true, true, false, false⟩
  | 4 => ⟨3, 3, 400, 100, true, true, false, false⟩
  | _ => ⟨0, 0, 100, 100, false, false, false, false⟩

open Verif.Chain in
/-- the manager before the interrupted batch `[3, 4]` -/
def wPre : Mgr := C01.run wUre Mgr.init [[1, 2]]
open Verif.Chain in
/-- the image committed after `revert 2` inside the reorg towards 4 -/
def wMid : Mgr := (revertN wUre 1 (addBlocks.go wUre [3, 4] wPre wPre.tip).1).1

open Verif.Chain in
example : wMid.best = [1, 0] ∧
    (addBlocks wUre wPre [3, 4]).2 = none ∧ heavier wUre 4 wPre.tip = true ∧
    (addBlocks wUre wMid [3, 4]).2 = none ∧ heavier wUre 4 wMid.tip = true ∧
    (addBlocks wUre wMid [3, 4]).1.best = (addBlocks wUre wPre [3, 4]).1.best ∧
    (∀ i, i < 8 → (addBlocks wUre wMid [3, 4]).1.recs i = (addBlocks wUre wPre [3, 4]).1.recs i ∧
                  (addBlocks wUre wMid [3, 4]).1.states i = (addBlocks wUre wPre [3, 4]).1.states i) := by
  decide

end Verif.C03
