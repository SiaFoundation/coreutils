/-
C18 — limits and shutdown are honoured under any schedule.

Property theorems only; the transition systems are in `Verif/Model/Conc.lean`, the inductive
invariants in `Verif/Lemmas/Conc.lean`.  Every theorem quantifies over ALL runs (`tr : List _`,
any length) of a system with an unbounded number of threads; a run is any interleaving of the
atomic steps the Go code has.  The theorems are statements about the MODEL.  What ties the model
to /repo: recorded `verifEvent` traces of the real ThreadGroup / syncer / rhp4 server /
wallet are replayed step by step through the same `step` functions (`harness/c18`,
`Verif/Drv/Conc.lean`), and `Extracted/ConcFacts.lean` (regenerated from source on every run)
re-checks that the atomic regions assumed here are the ones in the source.  The Go scheduler,
channel semantics and real blocking are not modelled; lost wake-ups can only be sampled by the
harness's stress runs and their oracles.
-/
import Verif.Lemmas.Conc
import Verif.Extracted.ConcFacts

namespace Verif.C18
open Verif.Conc

/-! ## ThreadGroup -/

/-- the WaitGroup counter equals the number of live threads, in every reachable state -/
theorem tg_count_eq_live (tr : List TGStep) (s : TG) (h : tgSys.run {} tr = some s) :
    s.wg = s.running :=
  (TG.inv_reach s ⟨tr, h⟩).count

/-- once stopped, always stopped -/
theorem tg_closed_stable (s s' : TG) (a : TGStep) (hc : s.closed = true) (hs : s.step a = some s') :
    s'.closed = true :=
  ((TG.step_mono hs).1 hc).1

/-- no `Add` succeeds after `Stop`: in a stopped group an `Add` step is a rejection (the caller
gets `ErrClosed`), it joins nothing and the counter is untouched -/
theorem tg_no_add_after_stop (s s' : TG) (hc : s.closed = true) (hs : s.step .add = some s') :
    s'.running = s.running ∧ s'.wg = s.wg ∧ s'.rejected = s.rejected + 1 := by
  simp only [TG.step, hc, if_true, Option.some.injEq] at hs
  subst hs; exact ⟨rfl, rfl, rfl⟩

/-- hence after `Stop` the number of live threads never grows, whatever step is taken -/
theorem tg_live_nonincreasing_after_stop (s s' : TG) (a : TGStep) (hc : s.closed = true)
    (hs : s.step a = some s') : s'.running ≤ s.running :=
  ((TG.step_mono hs).1 hc).2

/-- `Stop` returns only when the group is idle: in every reachable state in which some `Stop` has
returned there is no live thread, the counter is zero and the group is closed … -/
theorem tg_stop_returns_only_idle (tr : List TGStep) (s : TG) (h : tgSys.run {} tr = some s)
    (hr : 0 < s.returned) : s.running = 0 ∧ s.wg = 0 ∧ s.closed = true := by
  have hi := TG.inv_reach s ⟨tr, h⟩
  have := hi.retIdle hr
  exact ⟨this.2, by rw [hi.count]; exact this.2, this.1⟩

/-- … and it stays idle: whatever happens afterwards (any continuation of the run) -/
theorem tg_stays_idle (tr tr2 : List TGStep) (s s2 : TG) (h : tgSys.run {} tr = some s)
    (hr : 0 < s.returned) (h2 : tgSys.run s tr2 = some s2) : s2.running = 0 ∧ 0 < s2.returned := by
  have hr2 : 0 < s2.returned :=
    Sys.run_inv tgSys (fun t => 0 < t.returned)
      (fun _ _ _ ht hs => Nat.lt_of_lt_of_le ht (TG.step_mono hs).2) tr2 s s2 hr h2
  have hreach : tgSys.run {} (tr ++ tr2) = some s2 := by
    rw [Sys.run_append tgSys tr tr2 {} s h]; exact h2
  exact ⟨(tg_stop_returns_only_idle _ s2 hreach hr2).1, hr2⟩

/-- progress: a `Stop` caller never waits in a state without an enabled step of an existing
thread — either `Wait` can return or a live thread can call `done` (no thread of the group is
blocked by the group itself) -/
theorem tg_stop_progress (tr : List TGStep) (s : TG) (h : tgSys.run {} tr = some s)
    (hw : 0 < s.waiting) : (s.step .ret).isSome = true ∨ (s.step .done).isSome = true := by
  have hi := TG.inv_reach s ⟨tr, h⟩
  by_cases h0 : s.wg = 0
  · left; simp [TG.step, hw, h0]
  · right
    have : 0 < s.running := by have := hi.count; omega
    simp [TG.step, this]

/-- the `closed` check in `Add` is what the above rests on: without it the property is false -/
theorem tg_check_needed :
    ¬ (∀ (tr : List TGStep) (s : TG), tgSysNoCheck.run {} tr = some s → 0 < s.returned → s.running = 0) := by
  intro h
  have := h [.stop, .ret, .add] _ rfl (by decide)
  exact absurd this (by decide)

-- non-vacuity: a run with work before and after Stop, and a Stop that has returned
example : ∃ s, tgSys.run {} [.add, .add, .stop, .add, .done, .done, .ret, .add] = some s ∧
    0 < s.returned ∧ s.finished = 2 ∧ s.rejected = 2 ∧ s.running = 0 := ⟨_, rfl, by decide⟩
-- Stop cannot return while a thread is live
example : tgSys.run {} [.add, .stop, .ret] = none := rfl

/-! ## rhp4 server (and the wallet): Close = Stop -/

/-- `Server.Close` returns only after every handler has finished, and every stream that reaches
`tg.Add` afterwards is refused -/
theorem server_close_waits (tr : List SrvStep) (s : Srv) (h : srvSys.run {} tr = some s)
    (hr : 0 < s.tg.returned) :
    s.tg.running = 0 ∧
    ∀ s', s.step .enter = some s' → s'.tg.running = 0 ∧ s'.tg.rejected = s.tg.rejected + 1 := by
  have hi := Srv.inv_reach s ⟨tr, h⟩
  have hidle := hi.retIdle hr
  refine ⟨hidle.2, ?_⟩
  intro s' hs
  simp only [Srv.step] at hs
  split at hs
  · simp only [Option.map_eq_some_iff] at hs
    obtain ⟨t, ht, rfl⟩ := hs
    have := tg_no_add_after_stop s.tg t hidle.1 ht
    exact ⟨by rw [this.1]; exact hidle.2, this.2.2⟩
  · cases hs

/-- handlers counted by the group are exactly the running ones (no slot is lost or invented) -/
theorem server_count_eq_handlers (tr : List SrvStep) (s : Srv) (h : srvSys.run {} tr = some s) :
    s.tg.wg = s.tg.running :=
  (Srv.inv_reach s ⟨tr, h⟩).count

example : ∃ s, srvSys.run {} [.accept, .accept, .enter, .close, .enter, .finish, .closeRet, .accept, .enter]
    = some s ∧ 0 < s.tg.returned ∧ s.tg.rejected = 2 ∧ s.tg.finished = 1 := ⟨_, rfl, by decide⟩
example : srvSys.run {} [.accept, .enter, .close, .closeRet] = none := rfl

/-! ## in-flight limits of the syncer -/

/-- the handlers of one peer that are running never exceed the per-peer limit (when it is
enabled), and never exceed the slots actually taken from the semaphore -/
theorem inflight_peer_le (maxPeer maxSub : Int) (tr : List IFStep) (s : IF)
    (h : ifSys.run (IF.init maxPeer maxSub) tr = some s) :
    ∀ p ∈ s.peers, p.running ≤ p.sem ∧ (0 < maxPeer → (p.sem : Int) ≤ maxPeer) := by
  have hi := IF.inv_reach _ _ s ⟨tr, h⟩
  have hp := IF.reach_params _ _ s ⟨tr, h⟩
  intro p hmem
  obtain ⟨h1, h2, _⟩ := hi.sem p hmem
  refine ⟨?_, fun h0 => by have := h2 (by rw [hp.1]; exact h0); rw [hp.1] at this; exact this⟩
  rw [h1]; simp only [PeerSt.semHolders]; omega

/-- the handlers of one subnet that are running (over all its peers) never exceed the per-subnet
limit when it is enabled; with a limit `≤ 0` the counter is never touched and nothing is ever
dropped (disabled) -/
theorem inflight_subnet_le (maxPeer maxSub : Int) (tr : List IFStep) (s : IF)
    (h : ifSys.run (IF.init maxPeer maxSub) tr = some s) :
    (0 < maxSub → sumBy (·.running) s.peers ≤ s.subnet ∧ (s.subnet : Int) ≤ maxSub) ∧
    (maxSub ≤ 0 → s.subnet = 0 ∧ s.dropped = 0) := by
  have hi := IF.inv_reach _ _ s ⟨tr, h⟩
  have hp := IF.reach_params _ _ s ⟨tr, h⟩
  rw [← hp.2]
  refine ⟨fun h0 => ⟨?_, hi.subLe h0⟩, fun h0 => ⟨hi.subOff h0, hi.drop h0⟩⟩
  rw [hi.sub h0]
  exact sumBy_le_sumBy _ _ (fun p => by simp only [PeerSt.subHolders]; omega) _

/-- slots are returned on every exit path: in every reachable state each counter equals the
number of threads whose program counter says they hold a slot — handler refused by the thread
group, subnet over budget and normal handler end included (they are steps of the system) -/
theorem slots_returned (maxPeer maxSub : Int) (tr : List IFStep) (s : IF)
    (h : ifSys.run (IF.init maxPeer maxSub) tr = some s) :
    (∀ p ∈ s.peers, p.sem = p.semHolders) ∧
    (0 < maxSub → s.subnet = sumBy PeerSt.subHolders s.peers) := by
  have hi := IF.inv_reach _ _ s ⟨tr, h⟩
  have hp := IF.reach_params _ _ s ⟨tr, h⟩
  exact ⟨fun p hm => (hi.sem p hm).1, fun h0 => hi.sub (by rw [hp.2]; exact h0)⟩

/-- so when no handler is left and no loop is between taking and returning a slot, every
counter is back to zero -/
theorem slots_returned_quiescent (maxPeer maxSub : Int) (tr : List IFStep) (s : IF)
    (h : ifSys.run (IF.init maxPeer maxSub) tr = some s)
    (hq : ∀ p ∈ s.peers, p.semHolders = 0) :
    s.subnet = 0 ∧ ∀ p ∈ s.peers, p.sem = 0 := by
  have hs := slots_returned _ _ tr s h
  refine ⟨?_, fun p hm => by rw [hs.1 p hm]; exact hq p hm⟩
  by_cases h0 : 0 < maxSub
  · rw [hs.2 h0]
    refine sumBy_eq_zero _ _ (fun p hm => ?_)
    have := hq p hm
    simp only [PeerSt.semHolders] at this
    simp only [PeerSt.subHolders]; omega
  · exact ((inflight_subnet_le _ _ tr s h).2 (by omega)).1

/-- the per-peer path has no reject transition: the only step that drops a request is the
subnet-over-budget step -/
theorem backpressure_not_drop (s s' : IF) (a : IFStep) (hs : s.step a = some s')
    (hd : s'.dropped ≠ s.dropped) : ∃ i, a = .retSub i :=
  (IF.step_frame hs).2.2.1.resolve_left hd

/-- a request waiting for the per-peer slot is served as soon as a slot is free (the `take` step
is enabled exactly then) -/
theorem backpressure_take_enabled (s : IF) (i : Nat) (p : PeerSt) (hp : s.peers[i]? = some p)
    (hw : p.loop = .want) : (s.step (.take i)).isSome = s.semFree p := by
  simp only [IF.step, hp, hw, true_and]
  split <;> simp_all

/-- while it waits nothing else can happen to it except that the thread group closes -/
theorem backpressure_waits (s s' : IF) (a : IFStep) (i : Nat) (p : PeerSt)
    (hp : s.peers[i]? = some p) (hw : p.loop = .want) (hs : s.step a = some s') :
    ∃ p', s'.peers[i]? = some p' ∧
      (p'.loop = .want ∨ (p'.loop = .have ∧ a = .take i) ∨ (p'.loop = .closing ∧ s.tgClosed = true)) := by
  have hlen : i < s.peers.length := (List.getElem?_eq_some_iff.mp hp).1
  rcases (IF.step_frame hs).2.2.2 with he | he | ⟨j, _, q, ha, -, he⟩
  · exact ⟨p, he ▸ hp, Or.inl hw⟩
  · exact ⟨p, by rw [he, List.getElem?_append_left hlen]; exact hp, Or.inl hw⟩
  by_cases hji : j = i
  · -- the step is one of peer `i` itself: its loop can only take the slot or see the group closed,
    -- its handlers do not touch the loop's pc
    subst hji
    cases a
    case peerStart | oAdd | oDone | stop | ret => cases ha
    all_goals
      obtain rfl := Option.some.inj ha
      simp only [IF.step, hp] at hs
    case take =>
      obtain ⟨-, rfl⟩ := guard_some hs
      exact ⟨_, List.getElem?_set_self hlen, Or.inr (Or.inl ⟨rfl, rfl⟩)⟩
    case sawClosed =>
      obtain ⟨hg, rfl⟩ := guard_some hs
      exact ⟨_, List.getElem?_set_self hlen, Or.inr (Or.inr ⟨rfl, hg.2⟩)⟩
    case want | acq | retSub =>
      obtain ⟨hg, -⟩ := Option.ite_none_right_eq_some.mp hs
      first | cases hw.symm.trans hg | cases hw.symm.trans hg.1
    case peerExit =>
      obtain ⟨hg | hg, -⟩ := guard_some hs <;> cases hw.symm.trans hg
    case hAdd =>
      obtain ⟨-, hs⟩ := Option.ite_none_right_eq_some.mp hs
      rcases ite_cases hs with ⟨-, ⟨⟩⟩ | ⟨-, ⟨⟩⟩ <;> exact ⟨_, List.getElem?_set_self hlen, Or.inl hw⟩
    all_goals
      obtain ⟨-, rfl⟩ := guard_some hs
      exact ⟨_, List.getElem?_set_self hlen, Or.inl hw⟩
  · exact ⟨p, by rw [he, List.getElem?_set_ne hji]; exact hp, Or.inl hw⟩

-- non-vacuity: two peers of one subnet, per-peer limit 1, subnet limit 2: the third request of
-- the subnet is dropped (subnet path), the second request of peer 0 waits (per-peer path)
example : ∃ s, ifSys.run (IF.init 1 2)
    [.peerStart, .peerStart, .want 0, .take 0, .acq 0, .hAdd 0, .want 0,
     .want 1, .take 1, .acq 1, .hAdd 1, .hDone 1, .relSub 1, .relPeer 1,
     .want 1, .take 1, .acq 1, .hAdd 1] = some s ∧
    s.subnet = 2 ∧ s.dropped = 0 ∧ (s.step (.take 0)).isSome = false := ⟨_, rfl, by decide⟩
example : ∃ s, ifSys.run (IF.init 2 1)
    [.peerStart, .want 0, .take 0, .acq 0, .want 0, .take 0, .acq 0, .retSub 0] = some s ∧
    s.dropped = 1 ∧ s.subnet = 1 := ⟨_, rfl, by decide⟩
-- disabled limits (0 and negative): nothing is counted, nothing is dropped, nothing waits
example : ∃ s, ifSys.run (IF.init (-1) 0)
    [.peerStart, .want 0, .take 0, .acq 0, .want 0, .take 0, .acq 0, .want 0, .take 0, .acq 0,
     .hAdd 0, .hAdd 0, .hAdd 0] = some s ∧
    s.subnet = 0 ∧ s.dropped = 0 ∧ sumBy (·.running) s.peers = 3 := ⟨_, rfl, by decide⟩
-- the exit "thread group already closed": both slots come back
example : ∃ s, ifSys.run (IF.init 2 2)
    [.peerStart, .want 0, .take 0, .acq 0, .stop, .hAdd 0, .relSub 0, .relPeer 0, .want 0, .sawClosed 0,
     .peerExit 0, .ret] = some s ∧
    s.subnet = 0 ∧ sumBy (·.sem) s.peers = 0 ∧ s.returned = 1 := ⟨_, rfl, by decide⟩

/-! ### back-pressure and progress (KNOWN FINDING per-peer-backpressure-hol-stall) -/

/-- TARGET (false of the current code): back-pressure never stalls a peer — in every reachable
state of a peer connection in which some request is unanswered, some thread can take a step,
whatever the limit (≥ 1), the number of requests and the order in which the peer's frames reach
the wire (every id frame before its request frame).  What is missing: `runPeer` reads the id of
the next stream and only then waits for a slot, and the transport hands frames to streams one at
a time; the request frame of the waiting stream then blocks the frames behind it, among them the
request of the handler that owns the slot. -/
def C18_backpressure_progress_full : Prop :=
  ∀ (limit n : Nat) (wire : List Frame) (tr : List HOLStep) (s : HOL),
    0 < limit → wireOK n wire = true →
    holSys.run (HOL.init limit wire n) tr = some s → s.final = false → s.canStep = true

/-- the stall, reproduced on the real code (WithMaxInflightRPCs(1), three concurrent
SendV2Blocks of one peer: 4 of 100 runs time out): limit 1, two requests, wire order
id0 id1 req1 req0 -/
theorem hol_stall_witness :
    ∃ s, holSys.run (HOL.init 1 [.id 0, .id 1, .req 1, .req 0] 2)
      [.deliver, .acceptID 0, .take 0, .deliver, .acceptID 1, .deliver] = some s ∧
      s.final = false ∧ s.canStep = false ∧ s.sem = 1 ∧ s.held = some (.req 1) :=
  ⟨_, rfl, by decide⟩

theorem backpressure_progress_full_false : ¬ C18_backpressure_progress_full := by
  intro h
  obtain ⟨s, hs, hf, hn, _⟩ := hol_stall_witness
  have := h 1 2 _ _ s (by decide) (by decide) hs hf
  rw [hn] at this; cases this

/-- the provable part, a statement about `HOL` itself: when the peer issues its requests one after
the other (the wire is `seqWire n`: each request frame directly behind its id frame) the
connection never stalls — any number of requests, any limit ≥ 1, any interleaving of the server's
threads.  Proved through the simulation below and the progress of `SeqHOL`.  (The harness issues
the requests of one peer this way in its `inflight`/`rejects` scenarios and concurrently in
`holstall`; `hol_stall_witness` is the negation for concurrent issue.) -/
theorem backpressure_progress_partial (limit n : Nat) (hl : 0 < limit) (tr : List HOLStep) (s : HOL)
    (h : holSys.run (HOL.init limit (seqWire n) n) tr = some s) (hf : s.final = false) :
    s.canStep = true := by
  obtain ⟨q, hr, hlim⟩ := holRel_reach limit n tr s h
  have hqf : q.final = false := by
    cases hq : q.final
    · rfl
    · have := hol_final_of_seq n s q hr hq; rw [this] at hf; cases hf
  exact hol_enabled_of_seq n s q hr (SeqHOL.progress_of_inv q (hlim ▸ hl) hr.inv hqf)

/-- the correspondence that carries it: `SeqHOL` (counters) is the sequential-issue restriction of
`HOL`.  Forward simulation — every `HOL` step from related states is a `SeqHOL` step to related
states — and every reachable `HOL` state on the sequential wire is related to some `SeqHOL` state;
conversely whatever `SeqHOL` can do the related `HOL` state can do, and only final `HOL` states are
related to final `SeqHOL` states. -/
theorem hol_seq_simulation (n : Nat) (h h' : HOL) (q : SeqHOL) (a : HOLStep) (hr : HolRel n h q)
    (hs : h.step a = some h') : ∃ b q', q.step b = some q' ∧ HolRel n h' q' :=
  hol_sim n h h' q a hr hs

theorem hol_seq_related (limit n : Nat) (tr : List HOLStep) (s : HOL)
    (h : holSys.run (HOL.init limit (seqWire n) n) tr = some s) : ∃ q, HolRel n s q :=
  (holRel_reach limit n tr s h).imp fun _ hq => hq.1

theorem hol_seq_enabled (n : Nat) (h : HOL) (q : SeqHOL) (hr : HolRel n h q) :
    (q.canStep = true → h.canStep = true) ∧ (q.final = true → h.final = true) :=
  ⟨hol_enabled_of_seq n h q hr, hol_final_of_seq n h q hr⟩

/-- progress of the counter system on its own (all runs of `SeqHOL`) -/
theorem seq_progress (limit n : Nat) (hl : 0 < limit) (tr : List SeqStep) (s : SeqHOL)
    (h : seqHolSys.run { limit := limit, todo := n } tr = some s) (hf : s.final = false) :
    s.canStep = true := by
  have key : SeqHOL.Inv s ∧ s.limit = limit :=
    Sys.run_inv seqHolSys (fun s => SeqHOL.Inv s ∧ s.limit = limit)
      (fun s a s' hi hs => ⟨SeqHOL.inv_step s a s' hi.1 hs, (SeqHOL.step_limit s a s' hs).trans hi.2⟩)
      tr _ s ⟨⟨by simp⟩, rfl⟩ h
  exact SeqHOL.progress_of_inv s (by omega) key.1 hf

-- non-vacuity: the sequential system does run to completion with requests waiting for the slot
example : ∃ s, seqHolSys.run { limit := 1, todo := 2 }
    [.deliverId, .acceptID, .take, .deliverReq, .readReq, .deliverId, .acceptID, .deliverReq,
     .finish, .take, .readReq, .finish] = some s ∧ s.final = true ∧ s.doneN = 2 := ⟨_, rfl, by decide⟩
-- and the general system completes on the sequential wire where it wedged on the interleaved one
example : seqWire 2 = [.id 0, .req 0, .id 1, .req 1] := rfl
example : ∃ s, holSys.run (HOL.init 1 (seqWire 2) 2)
    [.deliver, .acceptID 0, .take 0, .deliver, .readReq 0, .deliver, .acceptID 1, .deliver,
     .finish 0, .take 1, .readReq 1, .finish 1] = some s ∧ s.final = true := ⟨_, rfl, by decide⟩

/-- `Close` of the syncer's thread group returns only when no handler is running and every
`runPeer` loop has exited -/
theorem inflight_close_waits (maxPeer maxSub : Int) (tr : List IFStep) (s : IF)
    (h : ifSys.run (IF.init maxPeer maxSub) tr = some s) (hr : 0 < s.returned) :
    ∀ p ∈ s.peers, p.running = 0 ∧ p.loop = .exited := by
  have hi := IF.inv_reach _ _ s ⟨tr, h⟩
  have h0 := (hi.ret hr).2
  have hsum : sumBy PeerSt.tgMembers s.peers = 0 := by have := hi.wg; omega
  intro p hm
  have := le_sumBy_of_mem PeerSt.tgMembers s.peers p hm
  rw [hsum] at this
  simp only [PeerSt.tgMembers] at this
  refine ⟨by omega, ?_⟩
  by_cases hl : p.loop = .exited
  · exact hl
  · simp [hl] at this

/-! ## peer caps -/

/-- TARGET, proved for the repaired code (`addPeer` re-checks under the mutex of the insert):
the number of inbound peers never exceeds `MaxInboundPeers`, for every number of simultaneous
connection attempts and every interleaving of their `allowConnect` / `addPeer` steps (a limit
`≤ 0` admits no inbound peer) -/
theorem peer_caps_hold (maxIn maxOut : Int) (tr : List CapStep) (s : Caps)
    (h : (capsSys true).run (Caps.init maxIn maxOut) tr = some s) :
    0 < s.inP → (s.inP : Int) ≤ maxIn := by
  have key : s.InInv ∧ s.maxIn = maxIn :=
    Sys.run_inv (capsSys true) (fun s => s.InInv ∧ s.maxIn = maxIn)
      (fun s a s' hi hs => ⟨Caps.inInv_step s a s' hi.1 hs,
        (Caps.step_params true s a s' hs).1.trans hi.2⟩)
      tr _ s ⟨by intro h0; simp [Caps.init] at h0, rfl⟩ h
  intro h0
  have := key.1 h0
  rw [key.2] at this; exact this

/-- outbound: the automatic dialer (`peerLoop`, one thread: check then insert) never takes the
number of outbound peers above `MaxOutboundPeers` as long as no explicit `Connect` is made;
explicit `Connect` calls are not subject to the limit (by design, see `outbound_explicit_exempt`).
Holds for the pinned and the repaired code. -/
theorem peer_caps_hold_outbound_auto (fixed : Bool) (maxIn maxOut : Int) (tr : List CapStep) (s : Caps)
    (hnd : ∀ a ∈ tr, a ≠ CapStep.direct)
    (h : (capsSys fixed).run (Caps.init maxIn maxOut) tr = some s) :
    0 < s.outP → (s.outP : Int) ≤ maxOut := by
  have key : s.OutInv ∧ s.maxOut = maxOut :=
    Sys.run_inv_labelled (capsSys fixed) (fun s => s.OutInv ∧ s.maxOut = maxOut) (· ≠ CapStep.direct)
      (fun s a s' ha hi hs => ⟨Caps.outInv_step fixed s a s' ha hi.1 hs,
        (Caps.step_params fixed s a s' hs).2.trans hi.2⟩)
      tr _ s hnd ⟨by intro h0; simp [Caps.init] at h0, rfl⟩ h
  intro h0
  have h1 := key.1
  unfold Caps.OutInv at h1
  rw [key.2] at h1
  split at h1 <;> omega

/-- the defect of the pinned code (check and insert are two steps): a concrete run in which 12
simultaneous inbound connections all pass `allowConnect` and are all inserted, limit 2 — the run
the harness reproduced on the real code before the repair -/
theorem caps_race_witness :
    ∃ s, (capsSys false).run (Caps.init 2 16)
      (List.replicate 12 (.allow true) ++ List.replicate 12 (.add true)) = some s ∧ s.inP = 12 :=
  ⟨_, rfl, by decide⟩

/-- so the TARGET is false of the pinned code … -/
theorem peer_caps_hold_pinned_false :
    ¬ (∀ (maxIn maxOut : Int) (tr : List CapStep) (s : Caps),
        (capsSys false).run (Caps.init maxIn maxOut) tr = some s → 0 < s.inP → (s.inP : Int) ≤ maxIn) := by
  intro h
  obtain ⟨s, hs, h12⟩ := caps_race_witness
  have := h 2 16 _ s hs (by omega)
  omega

/-- … and the same schedule on the repaired code inserts exactly 2 -/
theorem caps_race_repaired :
    ∃ s, (capsSys true).run (Caps.init 2 16)
      (List.replicate 12 (.allow true) ++ List.replicate 12 (.add true)) = some s ∧ s.inP = 2 :=
  ⟨_, rfl, by decide⟩

/-- explicit `Connect` calls bypass `MaxOutboundPeers` (both versions; by design) -/
theorem outbound_explicit_exempt (fixed : Bool) :
    ∃ s, (capsSys fixed).run (Caps.init 8 1) [.direct, .direct, .direct] = some s ∧ s.outP = 3 := by
  cases fixed <;> exact ⟨_, rfl, by decide⟩

example : ∃ s, (capsSys true).run (Caps.init 2 1)
    [.allow true, .allow true, .allow true, .add true, .add true, .add true, .allow true, .remove true,
     .allow true, .add true, .allow false, .add false, .allow false] = some s ∧
    s.inP = 2 ∧ s.outP = 1 ∧ s.pendIn = 0 ∧ s.pendOut = false := ⟨_, rfl, by decide⟩

/-! ## Syncer.Run / Close -/

/-- `Syncer.Close` returns only after all background work has stopped: `Run` has returned, the
three loops have exited, no connection goroutine and no `runPeer` is left in the thread group, and
every goroutine started by a sync round has been joined: no block-ingestion goroutine is left
(`ingest = 0`; it is not a member of the thread group — `syncLoop` joins it before it returns)
(pinned and repaired code) -/
theorem syncer_close_waits (fixed : Bool) (tr : List TDStep) (s : TD)
    (h : (tdSys fixed).run {} tr = some s) (hr : s.close = .returned) :
    s.wg = 0 ∧ s.run = .done ∧ s.accept = .exited ∧ s.bgRun = 0 ∧ s.bgSend = 0 ∧ s.conns = 0 ∧
      s.sO = 0 ∧ s.sC = 0 ∧ s.tgClosed = true ∧ s.ingest = 0 := by
  have hi := TD.inv_reach fixed s ⟨tr, h⟩
  have h0 := hi.ret hr
  have hw := hi.wg
  rw [h0] at hw
  have hrun : s.run = .done := by
    cases hrn : s.run <;> first | rfl | (exfalso; simp [hrn, RunPc.live] at hw; omega)
  have hacc : s.accept = .exited := by
    cases ha : s.accept <;> first | rfl | (exfalso; simp [ha, LoopSt.live] at hw; omega)
  have hbr : s.bgRun = 0 := by omega
  have hing : s.ingest = 0 := by
    rcases Nat.eq_zero_or_pos s.ingest with h | h
    · exact h
    · have := hi.sync (hi.ing h); omega
  exact ⟨h0, hrun, hacc, hbr, by omega, by omega, by omega, by omega, hi.tgc.mpr (Or.inr hr), hing⟩

/-- a sync round's ingestion goroutine keeps `syncLoop`, hence `Close`, waiting: while it runs,
`syncLoop` cannot return and `Close` cannot return -/
theorem sync_round_joined (fixed : Bool) (tr : List TDStep) (s : TD)
    (h : (tdSys fixed).run {} tr = some s) (hi : 0 < s.ingest) :
    TD.step fixed s (.bgExit true) = none ∧ TD.step fixed s .bgFail = none ∧
      TD.step fixed s .closeRet = none := by
  have hinv := TD.inv_reach fixed s ⟨tr, h⟩
  have hsr := hinv.ing hi
  have hbr := hinv.sync hsr
  have hw := hinv.wg
  refine ⟨by simp [TD.step]; omega, by simp [TD.step]; omega, ?_⟩
  simp only [TD.step]
  rw [if_neg]
  intro hc; omega

/-! ### the worker → orchestrator channel of a sync round -/

/-- once a round is aborted (the orchestrator has stopped reading), no worker's send can block,
the round can always move on, and `wg.Wait` is reached — PROVIDED the capacity of the response
channel covers the responses already in it plus those that may still come (two for a worker whose
request was in flight: it may succeed and then fail the next buffered request; one for every
other worker).  This is the assumption the code's `make(chan Resp, 128)` ("a reasonable maximum
number of peers") stands for; it is an assumption of the model, not enforced by the code. -/
theorem round_abort_sends_never_block (c : Nat) (s0 s : Round) (tr : List RoundStep)
    (h0 : s0.reading = false ∧ s0.cap = c ∧ s0.demand ≤ c) (h : roundSys.run s0 tr = some s) :
    (0 < s.busyOld → (s.step .respondOk).isSome = true ∧ (s.step .respondErr).isSome = true) ∧
    (0 < s.busyNew → (s.step .respondErr).isSome = true) ∧
    (s.joined = false → s.canStep = true) := by
  have key := Sys.run_inv roundSys (fun s => s.reading = false ∧ s.cap = c ∧ s.demand ≤ c)
    (fun s a s' hi hs => Round.aborted_step c s s' a hi hs) tr s0 s h0 h
  obtain ⟨hr, hc, hd⟩ := key
  simp only [Round.demand] at hd
  refine ⟨?_, ?_, ?_⟩
  · intro hb
    have : s.len < s.cap := by omega
    simp [Round.step, hb, this]
  · intro hb
    have : s.len < s.cap := by omega
    simp [Round.step, hb, this]; split <;> rfl
  · intro hj
    simp only [Round.canStep, List.any_cons, List.any_nil, Bool.or_false, Bool.or_eq_true]
    by_cases h1 : 0 < s.busyOld
    · have : s.len < s.cap := by omega
      right; left; simp [Round.step, h1, this]
    by_cases h2 : 0 < s.busyNew
    · have : s.len < s.cap := by omega
      right; right; left; simp [Round.step, h2, this]; split <;> rfl
    by_cases h3 : 0 < s.idle
    · by_cases h4 : 0 < s.queued
      · left; simp [Round.step, h3, h4, hr]
      · right; right; right; left; simp [Round.step, hr, h3]; omega
    · right; right; right; right; simp [Round.step, hr, hj]; omega

/-- without that assumption it is false: capacity 1 (one request), two workers with the request and
its end-of-round duplicate in flight, the round is aborted: the second response can never be sent,
`wg.Wait` never returns (the seeded change `make(chan Resp, len(reqs))`, reproduced on the real
code: `Syncer.Close` hangs) -/
theorem round_small_cap_stuck :
    ∃ s, roundSys.run { cap := 1 } [.spawn, .spawn, .assign, .assign, .abort, .respondErr] = some s ∧
      s.joined = false ∧ s.canStep = false ∧ s.busyOld = 1 ∧ s.len = s.cap :=
  ⟨_, rfl, by decide⟩

/-- the repaired code (0194f79: the send gives up once the round's context is cancelled) needs NO
assumption on the capacity: after the abort, whatever the capacity, the number of workers and the
number of responses already in the channel, some step of an existing thread is enabled until
`wg.Wait` returns — in every state, reachable or not -/
theorem round_abort_progress_fixed (s : Round) (hr : s.reading = false) (hj : s.joined = false) :
    s.canStepFixed = true := by
  simp only [Round.canStepFixed, List.any_cons, List.any_nil, Bool.or_false, Bool.or_eq_true]
  by_cases h1 : 0 < s.busyOld
  · right; right; right; left; simp [Round.stepFixed, hr, h1]
  by_cases h2 : 0 < s.busyNew
  · right; right; right; left; simp [Round.stepFixed, hr, h1, h2]
  by_cases h3 : 0 < s.idle
  · by_cases h4 : 0 < s.queued
    · left; simp [Round.stepFixed, Round.step, h3, h4, hr]
    · right; right; right; right; left; simp [Round.stepFixed, Round.step, hr, h3]; omega
  · right; right; right; right; right; simp [Round.stepFixed, Round.step, hr, hj]; omega

/-- the schedule that is stuck with capacity 1 runs to the join on the repaired code -/
theorem round_small_cap_fixed :
    ∃ s, roundSysFixed.run { cap := 1 }
      [.spawn, .spawn, .assign, .assign, .abort, .respondErr, .dropSend, .join] = some s ∧ s.joined = true :=
  ⟨_, rfl, by decide⟩

-- non-vacuity: the same schedule with the code's capacity runs to the join
example : ∃ s, roundSys.run { cap := 128 }
    [.spawn, .spawn, .assign, .assign, .abort, .respondErr, .respondErr, .join] = some s ∧
    s.joined = true := ⟨_, rfl, by decide⟩

/-- work submitted after `Close` is rejected: a connection goroutine that reaches the thread group
after `Close` began to wait joins nothing (`Connect` returns `ErrClosed`), and a peer whose
`runPeer` starts afterwards is not served -/
theorem syncer_rejects_after_close (fixed : Bool) (tr : List TDStep) (s : TD)
    (h : (tdSys fixed).run {} tr = some s) (hc : s.close = .waiting ∨ s.close = .returned) :
    TD.step fixed s .connStart = some s ∧
    ∀ b s', TD.step fixed s (.peerAdd b) = some s' → s'.sO = s.sO ∧ s'.sC = s.sC ∧ s'.wg = s.wg := by
  have hi := TD.inv_reach fixed s ⟨tr, h⟩
  have htg := hi.tgc.mpr hc
  refine ⟨by simp [TD.step, htg], ?_⟩
  intro b s' hs
  cases b <;> simp only [TD.step, htg, if_true] at hs
  all_goals (repeat' split at hs)
  all_goals first
    | contradiction
    | (simp only [Option.some.injEq] at hs; subst hs; exact ⟨rfl, rfl, rfl⟩)

/-- `close_terminates` as a progress statement, TARGET, proved for the repaired code: in every
reachable state in which `Close` is waiting, some thread that exists in the state has an
enabled step (no thread creation and no action of the environment is needed).  Assumptions of
the model: a connection goroutine can always finish (`ConnectTimeout`), `acceptRPC` returns once
the peer's transport is closed, `Accept` returns once the listener is closed. -/
theorem close_progress (tr : List TDStep) (s : TD) (h : (tdSys true).run {} tr = some s)
    (hc : s.close = .waiting) : TD.canProgress true s = true := by
  rcases TD.progress_or_stuck true s (TD.inv_reach true s ⟨tr, h⟩) hc with h | h
  · exact h
  · exact absurd h.1 (by decide)

/-- what is provable of the pinned code: `Close` can only be stuck on a peer that is being served
with an open transport — one that `Run`'s single sweep did not see -/
theorem close_progress_partial (tr : List TDStep) (s : TD) (h : (tdSys false).run {} tr = some s)
    (hc : s.close = .waiting) : TD.canProgress false s = true ∨ 0 < s.sO := by
  rcases TD.progress_or_stuck false s (TD.inv_reach false s ⟨tr, h⟩) hc with h | h
  · exact Or.inl h
  · exact Or.inr h.2

/-- the late-peer window of the pinned code, confirmed on the real code before the repair: a
fatal `syncLoop` error makes `Run` sweep; a peer connected afterwards is served; `Close` then
waits for ever (only the remote end could unblock it) -/
theorem late_peer_witness :
    ∃ s, (tdSys false).run {}
      [.bgFail, .runRecv, .runCloseL, .runSweep, .connStart, .connAdd, .peerAdd true,
       .closeL, .closeStop, .acceptExit, .runRecv, .bgExit false, .runRecv] = some s ∧
      s.close = .waiting ∧ TD.canProgress false s = false ∧ s.sO = 1 :=
  ⟨_, rfl, by decide⟩

/-- the same window without any failure: the handshake of a connection is still in progress
when `Close` is called and the sweep runs before the thread group is stopped -/
theorem late_peer_witness_race :
    ∃ s, (tdSys false).run {}
      [.connStart, .closeL, .acceptExit, .runRecv, .runCloseL, .runSweep, .connAdd, .peerAdd true,
       .closeStop, .bgExit false, .runRecv, .bgExit true, .runRecv] = some s ∧
      s.close = .waiting ∧ TD.canProgress false s = false :=
  ⟨_, rfl, by decide⟩

theorem close_progress_pinned_false :
    ¬ (∀ (tr : List TDStep) (s : TD), (tdSys false).run {} tr = some s → s.close = .waiting →
        TD.canProgress false s = true) := by
  intro h
  obtain ⟨s, hs, hc, hn, _⟩ := late_peer_witness
  have := h _ s hs hc
  rw [hn] at this; cases this

/-- on the repaired code both schedules continue to a returned `Close` -/
theorem late_peer_repaired :
    ∃ s, (tdSys true).run {}
      [.bgFail, .runRecv, .runCloseL, .runSweep, .connStart, .connAdd, .peerAdd true,
       .closeL, .closeStop, .acceptExit, .runRecv, .bgExit false, .runRecv,
       .watch, .peerErr, .peerRemove, .runPeersDone, .runReturn, .closeRet] = some s ∧
      s.close = .returned ∧ s.leaked = 0 :=
  ⟨_, rfl, by decide⟩

/-- pinned code: a connection can be left open, owned by nobody, after `Close` has returned
(`runPeer` finds the thread group stopped and returns without closing the peer); confirmed on
the real code before the repair (37 of 60 runs of `Connect` racing `Close`) -/
theorem leak_witness :
    ∃ s, (tdSys false).run {}
      [.connStart, .closeL, .closeStop, .connAdd, .peerAdd true, .peerRemove, .acceptExit, .runRecv,
       .runCloseL, .runSweep, .bgExit false, .runRecv, .bgExit true, .runRecv, .runPeersDone, .runReturn,
       .closeRet] = some s ∧
      s.close = .returned ∧ s.leaked = 1 :=
  ⟨_, rfl, by decide⟩

/-- repaired code: no connection is ever left behind -/
theorem no_leak (tr : List TDStep) (s : TD) (h : (tdSys true).run {} tr = some s) : s.leaked = 0 :=
  (TD.inv_reach true s ⟨tr, h⟩).leak rfl

-- Close during a sync round: it returns only after the ingestion goroutine has ended
example : ∃ s, (tdSys true).run {}
    [.syncStart, .closeL, .closeStop, .acceptExit, .runRecv, .runCloseL, .runSweep, .bgExit false,
     .runRecv, .ingestDone, .bgExit true, .runRecv, .runPeersDone, .runReturn, .closeRet] = some s ∧
    s.close = .returned ∧ s.ingest = 0 := ⟨_, rfl, by decide⟩
example : (tdSys true).run {} [.syncStart, .closeL, .closeStop, .bgExit true] = none := rfl
-- non-vacuity of `syncer_close_waits` / `close_progress`: a full shutdown with a connected peer
example : ∃ s, (tdSys true).run {}
    [.connStart, .connAdd, .peerAdd true, .closeL, .closeStop, .acceptExit, .runRecv, .runCloseL,
     .runSweep, .peerErr, .peerRemove, .bgExit false, .bgExit true, .runRecv, .runRecv, .runPeersDone,
     .runReturn, .closeRet] = some s ∧ s.close = .returned ∧ s.wg = 0 := ⟨_, rfl, by decide⟩

/-! ## the atomic steps assumed above are the ones in the source

`Verif/Extracted/ConcFacts.lean` is regenerated from /repo's source on every run (go/parser,
`harness/srcfacts/conc.go`); it holds the ordered synchronisation skeleton of every anchored
function and proves, by `decide`, the obligations collected here.  If an edit of /repo moves a
check out of its critical section, drops a deferred release, or moves a hook out of the region
whose order it records, this theorem stops compiling. -/

open Verif.Extracted.ConcFacts in
theorem source_steps_atomic :
    -- ThreadGroup.Add is one step; done = hook then wg.Done; Stop closes under the mutex and waits outside it
    (under "ThreadGroup.Add" "call tg.mu.Lock" "call tg.mu.Unlock"
        ["recv tg.closed", "call tg.wg.Add", "event tg.add"] = true) ∧
    (under "ThreadGroup.Stop" "call tg.mu.Lock" "call tg.mu.Unlock"
        ["recv tg.closed", "close tg.closed", "event tg.stop"] = true) ∧
    ((before "ThreadGroup.Stop" "call tg.mu.Unlock" "call tg.wg.Wait" &&
      before "ThreadGroup.Stop" "call tg.wg.Wait" "event tg.stopped") = true) ∧
    (precededBy "ThreadGroup.Stop" "close tg.closed" "event tg.stop" = true) ∧
    -- acquire / release are one step each under inflightMu
    (under "Syncer.acquireInflight" "call s.inflightMu.Lock" "call s.inflightMu.Unlock"
        ["index s.inflightSubnet", "event s.sub.acq", "event s.sub.rej"] = true) ∧
    (under "Syncer.releaseInflight" "call s.inflightMu.Lock" "call s.inflightMu.Unlock"
        ["index s.inflightSubnet", "delete s.inflightSubnet", "event s.sub.rel"] = true) ∧
    -- allowConnect and addPeer are one step each under s.mu; addPeer re-counts under the insert's acquisition
    (under "Syncer.allowConnect" "call s.mu.Lock" "call s.mu.Unlock"
        ["range s.peers", "event s.allow.ok", "event s.allow.rej"] = true) ∧
    (under "Syncer.addPeer" "call s.mu.Lock" "call s.mu.Unlock"
        ["range s.peers", "index s.peers", "event s.addpeer", "event s.addpeer.rej"] = true) ∧
    -- the peer store can only refuse a peer BEFORE it is inserted
    ((before "Syncer.addPeer" "call s.pm.AddPeer" "call s.mu.Lock" &&
      before "Syncer.addPeer" "call s.pm.UpdatePeerInfo" "call s.mu.Lock" &&
      before "Syncer.addPeer" "call s.pm.UpdatePeerInfo" "index s.peers") = true) :=
  ⟨tg_add_atomic, tg_stop_close_locked, tg_stop_waits_unlocked, tg_stop_hook_before_close, acquire_atomic, release_atomic,
   allow_atomic, addPeer_atomic, addPeer_store_before_insert⟩

open Verif.Extracted.ConcFacts in
/-- every exit path of the handler and of `runPeer` returns what it took, the per-peer path only
blocks, and every `Close` is `Stop` of the thread group -/
theorem source_exits_release :
    ((beforeFrom "Syncer.runPeer" "event s.h.start" "defer call s.releaseInflight" "call s.tg.Add" &&
      beforeFrom "Syncer.runPeer" "event s.h.start" "recv inflight" "defer call s.releaseInflight" &&
      beforeFrom "Syncer.runPeer" "event s.h.start" "defer event s.slot.ret" "defer call s.releaseInflight" &&
      beforeFrom "Syncer.runPeer" "event s.h.start" "call s.tg.Add" "call s.handleRPC" &&
      beforeFrom "Syncer.runPeer" "event s.h.start" "defer call done" "call s.handleRPC") = true) ∧
    ((before "Syncer.runPeer" "call s.acquireInflight" "recv inflight" &&
      before "Syncer.runPeer" "recv inflight" "continue") = true) ∧
    ((countBetween "Syncer.runPeer" "call s.acquireInflight" "event s.h.start" "continue" == 1 &&
      countBetween "Syncer.runPeer" "call s.acquireInflight" "event s.h.start" "return" == 0 &&
      countBetween "Syncer.runPeer" "call s.acquireInflight" "event s.h.start" "recv inflight" == 1) = true) ∧
    ((beforeFrom "Syncer.runPeer" "event s.slot.want" "send inflight" "recv s.tg.Done()" &&
      beforeFrom "Syncer.runPeer" "event s.slot.want" "recv s.tg.Done()" "call s.acquireInflight" &&
      !has "Syncer.runPeer" "default") = true) ∧
    ((before "Syncer.runPeer" "call p.Close" "delete s.peers" && has "Syncer.runPeer" "recv s.tg.Done()") = true) ∧
    ((has "Syncer.Close" "call s.tg.Stop" && before "Syncer.Close" "call s.l.Close" "call s.tg.Stop" &&
      has "Server.Close" "call s.tg.Stop" && has "SingleAddressWallet.Close" "call sw.tg.Stop") = true) ∧
    ((before "Server.Serve" "go{" "call s.tg.Add" &&
      before "Server.Serve" "call s.tg.Add" "call s.handleHostStream" &&
      before "Server.Serve" "defer call done" "call s.handleHostStream") = true) ∧
    -- every relay goroutine of a broadcast joins the thread group itself
    ((before "Syncer.withPeers" "go{" "call s.tg.Add" &&
      beforeFrom "Syncer.withPeers" "go{" "call s.tg.Add" "call fn" &&
      beforeFrom "Syncer.withPeers" "go{" "defer call done" "call fn") = true) :=
  ⟨handler_defers_cover_every_exit, runPeer_reject_returns_slot, runPeer_only_reject_exit_before_handler, runPeer_take_blocks, runPeer_closes_peer,
   closes_stop_group, serve_joins_group, withPeers_registers_each_goroutine⟩

end Verif.C18
