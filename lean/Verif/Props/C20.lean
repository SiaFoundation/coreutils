/-
C20 — seed phrases and derived keys round-trip exactly.

Property theorems only.  The model (`Verif/Model/Seed.lean`) is the computation of
`/repo/wallet/seed.go` on a `(hi, lo)` pair of `uint64`s with the shifts, masks and truncations of
the source; helper lemmas are in `Verif/Lemmas/Seed.lean`; the facts about the word table and the
literals that are re-extracted from the source on every run are in `Verif/Lemmas/SeedWordlist.lean`.

Quantifiers: every theorem is for **all** 2^128 entropies / **all** lists of word indices (any
length, any values) / **all** strings / **all** `uint64` key indices — no bound appears.  The
checksum is a parameter: the theorems hold for *every* function `ck` into `0..15`, in particular
(`*_sha`) for `nibble ∘ sha0` where `sha0 e` is the first byte of `SHA-256(entropy e)` — whatever
SHA-256 is.  BLAKE2b and Ed25519 are outside the model: for key derivation the theorems are about
the byte strings that are hashed (`kdfInput`, `seedInput`); that the real `KeyFromSeed` is
`ed25519(blake2b(kdfInput))`, is repeatable and separates indices is checked on the real code by
the harness (`harness/c20`).
-/
import Verif.Lemmas.Seed
import Verif.Lemmas.SeedWordlist

namespace Verif.C20
open Verif.Seed

/-- the word table of `/repo/wallet/seed.go`, as extracted on this run -/
abbrev wl : List (List Nat) := Verif.Extracted.Seed.wordlist

/-! ### the `(hi, lo)` manipulation is 128-bit arithmetic -/

/-- seed.go:76-77 `lo = lo>>11 | hi<<(64-11); hi >>= 11` is `x ↦ x / 2^11` on `hi·2^64 + lo` -/
theorem pair_shr (hi lo : Nat) (hh : hi < 2 ^ 64) (hl : lo < 2 ^ 64) :
    pairVal (shr hi wordBits, shr lo wordBits ||| shl hi (64 - wordBits)) = pairVal (hi, lo) / 2 ^ 11 ∧
    pairVal (shr hi lastBits, shr lo lastBits ||| shl hi (64 - lastBits)) = pairVal (hi, lo) / 2 ^ 7 := by
  obtain ⟨a1, a2⟩ := Verif.Seed.pair_shr 53 11 hi lo rfl hl
  obtain ⟨b1, b2⟩ := Verif.Seed.pair_shr 57 7 hi lo rfl hl
  show shr hi 11 * 2 ^ 64 + (shr lo 11 ||| shl hi 53) = _ ∧ shr hi 7 * 2 ^ 64 + (shr lo 7 ||| shl hi 57) = _
  rw [a1, a2, b1, b2]
  exact ⟨Nat.div_add_mod' _ _, Nat.div_add_mod' _ _⟩

/-- seed.go:99-100 `hi = hi<<11 | lo>>(64-11); lo = lo<<11 | v` is `x ↦ (x·2^11 + v) mod 2^128` -/
theorem pair_shl (hi lo v : Nat) (hh : hi < 2 ^ 64) (hl : lo < 2 ^ 64) (hv : v < 2048) :
    pairVal (decStep (hi, lo) v) = (pairVal (hi, lo) * 2 ^ 11 + v) % 2 ^ 128 := by
  obtain ⟨a1, a2⟩ := Verif.Seed.pair_shl 53 11 hi lo v rfl hl hv
  show (shl hi 11 ||| shr lo 53) * 2 ^ 64 + (shl lo 11 ||| v) = _
  rw [a1, a2]
  exact split128 _

/-- `bip39checksum` returns a nibble for every hash byte (seed.go:59), the high one -/
theorem checksum_nibble (h0 : Nat) : nibble h0 < 16 ∧ (h0 < 256 → nibble h0 = h0 / 16) :=
  ⟨nibble_lt h0, nibble_eq h0⟩

/-! ### code-level codec = base-2048 digits of `e·16 + ck e` -/

theorem code_eq_spec_encode (ck : Nat → Nat) (e : Nat) (he : e < 2 ^ 128) (hck : ck e < 16) :
    encode ck e = specEncode ck e := by
  have hp : pairVal (e / 2 ^ 64, e % 2 ^ 64) = e := Nat.div_add_mod' _ _
  rw [encode, encodeIdx_eq_spec ck _ _ (Nat.mod_lt _ (Nat.two_pow_pos 64)) (by rw [hp]; exact hck), hp]

/-- for every list of indices (any length, any values) and every `ck` -/
theorem code_eq_spec_decode (ck : Nat → Nat) (ws : List Nat) : decode ck ws = specDecode ck ws := by
  unfold decode
  by_cases hlen : ws.length = 12
  · by_cases hr : ∀ w ∈ ws, w < 2048
    · rw [map_idxLookup_some ws hr, decodeOpts_some ck ws hlen hr, specDecode_inrange ck ws hlen hr]
      split
      · rfl
      · exact congrArg Except.ok (Nat.div_add_mod' _ _)
    · obtain ⟨w, hw, h2⟩ := exists_ge_of_not ws hr
      rw [specDecode_unknown ck ws hlen ⟨w, hw, h2⟩, decodeOpts_unknown ck _ (by simpa using hlen)
        (List.mem_map.mpr ⟨w, hw, if_neg (Nat.not_lt.mpr h2)⟩)]
      rfl
  · rw [specDecode_count ck ws hlen, decodeOpts_count ck _ (by simpa using hlen)]
    rfl

/-- `bip39EnglishWordList[w]` never panics: the encoder produces 12 indices below 2048 -/
theorem encode_in_range (ck : Nat → Nat) (e : Nat) (he : e < 2 ^ 128) (hck : ck e < 16) :
    (encode ck e).length = 12 ∧ ∀ w ∈ encode ck e, w < 2048 := by
  rw [code_eq_spec_encode ck e he hck]
  exact ⟨length_digitsBE _ _, digitsBE_lt _ _⟩

/-! ### round trips on word indices -/

/-- **every 128-bit entropy encodes to 12 words that decode back to it** -/
theorem decode_encode (ck : Nat → Nat) (e : Nat) (he : e < 2 ^ 128) (hck : ck e < 16) :
    decode ck (encode ck e) = .ok e := by
  rw [code_eq_spec_encode ck e he hck, code_eq_spec_decode, specDecode_specEncode ck e he hck]

/-- **a word sequence decodes iff it has 12 in-range words and its checksum nibble is correct** -/
theorem decode_ok_iff (ck : Nat → Nat) (ws : List Nat) (e : Nat) :
    decode ck ws = .ok e ↔
      ws.length = 12 ∧ (∀ w ∈ ws, w < 2048) ∧ ck e = value ws % 16 ∧ e = value ws / 16 := by
  rw [code_eq_spec_decode]; exact specDecode_ok_iff ck ws e

/-- the checksum nibble of a phrase is the low nibble of its last word -/
theorem value_mod16 (ws : List Nat) (h : ws.length = 12) : value ws % 16 = ws.getD 11 0 % 16 :=
  Verif.Seed.value_mod16 ws h

/-- the entropy of a phrase that decodes is below 2^128 -/
theorem decode_lt (ck : Nat → Nat) (ws : List Nat) (e : Nat) (h : decode ck ws = .ok e) :
    e < 2 ^ 128 := by
  obtain ⟨hl, hr, _, he⟩ := (decode_ok_iff ck ws e).mp h
  have hv : value ws < 2048 ^ 12 := by
    have := value_lt ws hr
    rwa [hl] at this
  rw [he]
  exact Nat.div_lt_of_lt_mul hv

/-- **every word sequence that decodes re-encodes to itself** (all 2048^12 sequences, and
vacuously all others) -/
theorem encode_decode (ck : Nat → Nat) (ws : List Nat) (e : Nat) (h : decode ck ws = .ok e) :
    encode ck e = ws := by
  have he := decode_lt ck ws e h
  obtain ⟨_, _, hc, _⟩ := (decode_ok_iff ck ws e).mp h
  rw [code_eq_spec_encode ck e he (by omega)]
  rw [code_eq_spec_decode] at h
  exact specEncode_of_specDecode ck ws e h

/-- hence decoding is injective on the phrases that decode -/
theorem decode_injective (ck : Nat → Nat) (ws ws' : List Nat) (e : Nat)
    (h : decode ck ws = .ok e) (h' : decode ck ws' = .ok e) : ws = ws' := by
  rw [← encode_decode ck ws e h, ← encode_decode ck ws' e h']

/-- and encoding is injective on entropies -/
theorem encode_injective (ck : Nat → Nat) (e e' : Nat) (he : e < 2 ^ 128) (he' : e' < 2 ^ 128)
    (hck : ck e < 16) (hck' : ck e' < 16) (h : encode ck e = encode ck e') : e = e' := by
  have h1 := decode_encode ck e he hck
  rw [h, decode_encode ck e' he' hck'] at h1
  exact (Except.ok.inj h1).symm

/-! ### malformed word sequences are rejected, and with which error -/

theorem decode_count_iff (ck : Nat → Nat) (ws : List Nat) :
    decode ck ws = .error .count ↔ ws.length ≠ 12 := by
  rw [code_eq_spec_decode]
  refine ⟨fun h hlen => ?_, specDecode_count ck ws⟩
  by_cases hr : ∀ w ∈ ws, w < 2048
  · rw [specDecode_inrange ck ws hlen hr] at h
    split at h <;> cases h
  · rw [specDecode_unknown ck ws hlen (exists_ge_of_not ws hr)] at h
    cases h

theorem decode_unknown_iff (ck : Nat → Nat) (ws : List Nat) :
    decode ck ws = .error .unknown ↔ ws.length = 12 ∧ ∃ w ∈ ws, 2048 ≤ w := by
  rw [code_eq_spec_decode]
  refine ⟨fun h => ?_, fun ⟨hlen, h2⟩ => specDecode_unknown ck ws hlen h2⟩
  by_cases hlen : ws.length = 12
  · by_cases hr : ∀ w ∈ ws, w < 2048
    · rw [specDecode_inrange ck ws hlen hr] at h
      split at h <;> cases h
    · exact ⟨hlen, exists_ge_of_not ws hr⟩
  · rw [specDecode_count ck ws hlen] at h
    cases h

theorem decode_checksum_iff (ck : Nat → Nat) (ws : List Nat) :
    decode ck ws = .error .checksum ↔
      ws.length = 12 ∧ (∀ w ∈ ws, w < 2048) ∧ ck (value ws / 16) ≠ value ws % 16 := by
  rw [code_eq_spec_decode]
  constructor
  · intro h
    by_cases hlen : ws.length = 12
    · by_cases hr : ∀ w ∈ ws, w < 2048
      · rw [specDecode_inrange ck ws hlen hr] at h
        split at h
        · exact ⟨hlen, hr, ‹_›⟩
        · cases h
      · rw [specDecode_unknown ck ws hlen (exists_ge_of_not ws hr)] at h
        cases h
    · rw [specDecode_count ck ws hlen] at h
      cases h
  · intro ⟨hlen, hr, hc⟩
    rw [specDecode_inrange ck ws hlen hr, if_pos hc]

/-! ### instantiated with the real checksum `(sha256(entropy)[0] & 0xF0) >> 4`, for any SHA-256 -/

/-- `bip39checksum` as a function of the entropy's value; `sha0 e` is `sha256(entropy)[0]` -/
def ckSha (sha0 : Nat → Nat) : Nat → Nat := fun e => nibble (sha0 e)

theorem decode_encode_sha (sha0 : Nat → Nat) (e : Nat) (he : e < 2 ^ 128) :
    decode (ckSha sha0) (encode (ckSha sha0) e) = .ok e :=
  decode_encode _ e he (nibble_lt _)

theorem encode_decode_sha (sha0 : Nat → Nat) (ws : List Nat) (e : Nat)
    (h : decode (ckSha sha0) ws = .ok e) : encode (ckSha sha0) e = ws :=
  encode_decode _ ws e h

/-! ### the entropy bytes -/

/-- the 16 bytes written by `decodeBIP39Phrase` (seed.go:110-111) read back (seed.go:64-65) to the
same pair: the byte string and the `(hi, lo)` pair determine each other -/
theorem bytes_roundtrip (p : Nat × Nat) (h1 : p.1 < 2 ^ 64) (h2 : p.2 < 2 ^ 64) :
    pairOfBytes (bytesOfPair p) = p ∧ (bytesOfPair p).length = 16 ∧ ∀ b ∈ bytesOfPair p, b < 256 := by
  refine ⟨pairOfBytes_bytesOfPair p h1 h2, rfl, ?_⟩
  intro b hb
  rcases List.mem_append.mp hb with hb | hb <;> exact putBe64_lt _ b hb

/-! ### the tokeniser: white-space variations do not change the result -/

/-- any rendering of the tokens `ts` — arbitrary leading white space, every token followed by a
non-empty run of arbitrary white space (spaces, tabs, newlines, U+00A0, U+2028, …), the last run
possibly empty — tokenises to `ts` -/
theorem fields_render (pre : List Nat) (items : List (List Nat × List Nat))
    (hpre : AllSpace pre) (h : Rendering items) :
    fields (pre ++ render items) = items.map Prod.fst :=
  Verif.Seed.fields_render pre items hpre h

/-- in particular `strings.Join(ws, " ")` tokenises to `ws` -/
theorem fields_join (ws : List (List Nat)) (h : ∀ w ∈ ws, TokOk w) : fields (joinSp ws) = ws :=
  fields_joinSp ws h

/-- so two renderings of the same tokens decode identically (same entropy or same error), over
any word list and any checksum function -/
theorem decodePhrase_whitespace_invariant (wl : List (List Nat)) (ck : Nat → Nat)
    (pre pre' : List Nat) (items items' : List (List Nat × List Nat))
    (hpre : AllSpace pre) (hpre' : AllSpace pre') (h : Rendering items) (h' : Rendering items')
    (hsame : items.map Prod.fst = items'.map Prod.fst) :
    decodePhrase wl ck (pre ++ render items) = decodePhrase wl ck (pre' ++ render items') := by
  simp only [decodePhrase, fields_render pre items hpre h, fields_render pre' items' hpre' h', hsame]

/-! ### the word table extracted from `seed.go` on this run -/

/-- 2048 words, pairwise distinct (strictly sorted), each non-empty and free of white space
(lower-case ASCII letters only) -/
theorem wordlist_good : GoodList wl := Verif.Seed.wordlist_good

/-- the source's literals and byte orders are the model's -/
theorem source_constants :
    Verif.Extracted.Seed.checksumLits = checksumLits ∧ Verif.Extracted.Seed.encodeLits = encodeLits ∧
    Verif.Extracted.Seed.decodeLits = decodeLits ∧ Verif.Extracted.Seed.keyFromSeedLits = keyFromSeedLits ∧
    Verif.Extracted.Seed.encodeSelectors = ["binary.BigEndian.Uint64", "binary.BigEndian.Uint64", "strings.Join"] ∧
    Verif.Extracted.Seed.decodeSelectors = ["strings.Fields", "errors.New", "fmt.Errorf",
      "binary.BigEndian.PutUint64", "binary.BigEndian.PutUint64", "errors.New"] ∧
    Verif.Extracted.Seed.keyFromSeedSelectors =
      ["binary.LittleEndian.PutUint64", "blake2b.Sum256", "types.NewPrivateKeyFromSeed"] :=
  ⟨checksumLits_eq, encodeLits_eq, decodeLits_eq, keyFromSeedLits_eq, encodeSelectors_eq,
    decodeSelectors_eq, keyFromSeedSelectors_eq⟩

/-! ### round trips on phrases (strings), over the extracted table -/

/-- **`decodeBIP39Phrase(encodeBIP39Phrase(entropy)) = entropy`** for all 2^128 entropies -/
theorem phrase_decode_encode (ck : Nat → Nat) (hi lo : Nat) (hh : hi < 2 ^ 64) (hl : lo < 2 ^ 64)
    (hck : ck (pairVal (hi, lo)) < 16) :
    decodePhrase wl ck (encodePhrase wl ck hi lo) = .ok (hi, lo) :=
  decodePhrase_encodePhrase wl wordlist_good ck hi lo hh hl hck

/-- **a string decodes iff it is 12 words of the table, separated by white space, whose checksum
nibble is correct**; the entropy is then `value / 16` -/
theorem phrase_decode_ok_iff (ck : Nat → Nat) (s : List Nat) (p : Nat × Nat) :
    decodePhrase wl ck s = .ok p ↔
      ∃ ws : List Nat, fields s = ws.map (fun w => wl.getD w []) ∧ ws.length = 12 ∧
        (∀ w ∈ ws, w < 2048) ∧ ck (value ws / 16) = value ws % 16 ∧
        p = (value ws / 16 / 2 ^ 64, value ws / 16 % 2 ^ 64) :=
  decodePhrase_ok_iff wl wordlist_good ck s p

/-- **a string that decodes re-encodes to itself** — exactly, up to the white space that
`strings.Fields` discards (`joinSp (fields s)` is `s` with single spaces and trimmed ends) -/
theorem phrase_encode_decode (ck : Nat → Nat) (s : List Nat) (p : Nat × Nat)
    (h : decodePhrase wl ck s = .ok p) :
    (p.1 < 2 ^ 64 ∧ p.2 < 2 ^ 64) ∧ encodePhrase wl ck p.1 p.2 = joinSp (fields s) :=
  encodePhrase_of_decodePhrase wl wordlist_good.1 ck s p h

/-- a canonical phrase (what `encodeBIP39Phrase` returns) that decodes re-encodes to itself
byte for byte -/
theorem phrase_encode_decode_exact (ck : Nat → Nat) (ws : List (List Nat)) (p : Nat × Nat)
    (hw : ∀ w ∈ ws, TokOk w) (h : decodePhrase wl ck (joinSp ws) = .ok p) :
    encodePhrase wl ck p.1 p.2 = joinSp ws := by
  have := (phrase_encode_decode ck (joinSp ws) p h).2
  rwa [fields_join ws hw] at this

/-- **malformed phrases are rejected**: not 12 tokens -/
theorem phrase_wrong_count (ck : Nat → Nat) (s : List Nat) (h : (fields s).length ≠ 12) :
    decodePhrase wl ck s = .error .count :=
  decodePhrase_count wl ck s h

/-- 12 tokens, one of which is not in the table -/
theorem phrase_unknown_word (ck : Nat → Nat) (s : List Nat) (h : (fields s).length = 12)
    (t : List Nat) (ht : t ∈ fields s) (hn : t ∉ wl) :
    decodePhrase wl ck s = .error .unknown :=
  decodePhrase_unknown wl ck s h t ht hn

/-- a phrase containing any character that is neither white space nor `a`…`z` (an upper-case
letter, a digit, punctuation, a non-ASCII letter) never decodes -/
theorem phrase_case_rejected (ck : Nat → Nat) (s : List Nat) (t : List Nat) (ht : t ∈ fields s)
    (c : Nat) (hc : c ∈ t) (hn : ¬ (97 ≤ c ∧ c ≤ 122)) (p : Nat × Nat) :
    decodePhrase wl ck s ≠ .ok p := by
  intro h
  have hnot : t ∉ wl := not_mem_of_not_lower wl wordlist_lower t c hc hn
  by_cases h12 : (fields s).length = 12
  · rw [phrase_unknown_word ck s h12 t ht hnot] at h; cases h
  · rw [phrase_wrong_count ck s h12] at h; cases h

/-! ### key derivation: the hashed byte strings separate (seed, index) and entropies -/

/-- `KeyFromSeed` hashes `seed ‖ LE64(index)` (seed.go:48-51): 40 bytes, and distinct
`(seed, index)` pairs give distinct hash inputs, for all 32-byte seeds and all `uint64` indices -/
theorem kdfInput_injective (s s' : List Nat) (i i' : Nat) (hs : s.length = 32) (hs' : s'.length = 32)
    (hi : i < 2 ^ 64) (hi' : i' < 2 ^ 64) (h : kdfInput s i = kdfInput s' i') : s = s' ∧ i = i' := by
  unfold kdfInput at h
  rw [List.take_of_length_le (by omega), List.take_of_length_le (by omega),
    Nat.mod_eq_of_lt hi, Nat.mod_eq_of_lt hi'] at h
  obtain ⟨h1, h2⟩ := List.append_inj h (by omega)
  exact ⟨h1, putLe64_injective i i' hi hi' h2⟩

theorem kdfInput_length (s : List Nat) (i : Nat) (hs : s.length = 32) : (kdfInput s i).length = 40 := by
  simp [kdfInput, length_putLe64, hs]

/-- `SeedFromPhrase` hashes the 16 entropy bytes (seed.go:39): distinct entropies give distinct
hash inputs -/
theorem seedInput_injective (p q : Nat × Nat) (hp1 : p.1 < 2 ^ 64) (hp2 : p.2 < 2 ^ 64)
    (hq1 : q.1 < 2 ^ 64) (hq2 : q.2 < 2 ^ 64) (h : seedInput p = seedInput q) : p = q := by
  have := congrArg pairOfBytes h
  simpa [seedInput, pairOfBytes_bytesOfPair, hp1, hp2, hq1, hq2] using this

/-- so two phrases that decode have the same seed pre-image iff they consist of the same words -/
theorem phrase_seedInput_eq_iff (ck : Nat → Nat) (s s' : List Nat) (p p' : Nat × Nat)
    (h : decodePhrase wl ck s = .ok p) (h' : decodePhrase wl ck s' = .ok p') :
    seedInput p = seedInput p' ↔ fields s = fields s' := by
  constructor
  · intro hs
    obtain ⟨ws, hl, hr, hf, hd⟩ := decodePhrase_ok wl ck s p h
    obtain ⟨ws', hl', hr', hf', hd'⟩ := decodePhrase_ok wl ck s' p' h'
    rw [wordlist_good.1] at hr hr'
    obtain ⟨⟨b1, b2⟩, e⟩ := encodeIdx_of_decodeOpts ck ws hl hr p hd
    obtain ⟨⟨b1', b2'⟩, e'⟩ := encodeIdx_of_decodeOpts ck ws' hl' hr' p' hd'
    have hp := seedInput_injective p p' b1 b2 b1' b2' hs
    subst hp
    rw [hf, hf', ← e, ← e']
  · intro hf
    have : decodePhrase wl ck s = decodePhrase wl ck s' := by simp only [decodePhrase, hf]
    rw [h, h'] at this
    rw [Except.ok.inj this]

/-! ### non-vacuity: concrete instances (BIP-39 test vectors; `0x37`, `0x5A…` are the real
first SHA-256 bytes) -/

/-- entropy 0 ↦ `abandon ×11 about` (indices 0 ×11, 3): `sha256(0^16)[0] = 0x37` -/
example : encode (ckSha fun _ => 0x37) 0 = [0, 0, 0, 0, 0, 0, 0, 0, 0, 0, 0, 3] := by decide +kernel
example : decode (ckSha fun _ => 0x37) [0, 0, 0, 0, 0, 0, 0, 0, 0, 0, 0, 3] = .ok 0 := by decide +kernel
/-- entropy 2^128-1 ↦ `zoo ×11 wrong` (2047 ×11, 2037): `sha256(ff^16)[0]` has high nibble 5 -/
example : encode (fun _ => 5) (2 ^ 128 - 1) =
    [2047, 2047, 2047, 2047, 2047, 2047, 2047, 2047, 2047, 2047, 2047, 2037] := by decide +kernel
example : decode (fun _ => 5)
    [2047, 2047, 2047, 2047, 2047, 2047, 2047, 2047, 2047, 2047, 2047, 2037] = .ok (2 ^ 128 - 1) := by
  decide +kernel
/-- a wrong checksum, a wrong count and an out-of-range word are all reachable -/
example : decode (fun _ => 5) [0, 0, 0, 0, 0, 0, 0, 0, 0, 0, 0, 3] = .error .checksum := by decide +kernel
example : decode (fun _ => 3) [0, 0, 0, 0, 0, 0, 0, 0, 0, 0, 3] = .error .count := by decide +kernel
example : decode (fun _ => 3) [0, 0, 0, 0, 0, 0, 0, 0, 0, 0, 2048, 3] = .error .unknown := by decide +kernel
/-- the hypotheses of `decode_ok_iff` are satisfiable with a non-zero entropy -/
example : decode (fun _ => 9) [1, 2, 3, 4, 5, 6, 7, 8, 9, 10, 11, 0x19] = .ok (value [1, 2, 3, 4, 5, 6, 7, 8, 9, 10, 11, 0x19] / 16) := by
  decide +kernel
/-- the extracted table starts with `abandon` and ends with `zoo` -/
example : wl.getD 0 [] = [97, 98, 97, 110, 100, 111, 110] ∧ wl.getD 2047 [] = [122, 111, 111] := by
  decide +kernel
/-- tokenising `"\t abandon\n\nabout  "` gives the two words -/
example : fields ([9, 32] ++ wl.getD 0 [] ++ [10, 10] ++ wl.getD 3 [] ++ [32, 0xA0]) = [wl.getD 0 [], wl.getD 3 []] := by
  decide +kernel
/-- a full phrase with mixed white space decodes; with an upper-case first letter it does not -/
example : decodePhrase wl (fun _ => 3)
    ([10] ++ joinSp (List.replicate 11 (wl.getD 0 [])) ++ [9, 13, 10] ++ wl.getD 3 [] ++ [32]) = .ok (0, 0) := by
  decide +kernel
example : decodePhrase wl (fun _ => 3)
    (65 :: (joinSp (List.replicate 11 (wl.getD 0 []) ++ [wl.getD 3 []])).drop 1) = .error .unknown := by
  decide +kernel
/-- a rendering in the sense of `fields_render` -/
example : Rendering [([97], [32, 9]), ([98], [10]), ([99], [])] := by
  simp only [Rendering, TokOk, AllSpace]
  decide
/-- the KDF pre-image of index 1 and of index 2^56 differ (little-endian: first vs last byte) -/
example : kdfInput (List.replicate 32 7) 1 ≠ kdfInput (List.replicate 32 7) (2 ^ 56) := by decide +kernel
example : (kdfInput (List.replicate 32 7) 1).drop 32 = [1, 0, 0, 0, 0, 0, 0, 0] := by decide +kernel

end Verif.C20
