/-
C17, source tie: the control skeleton of the key/value backends of `chain/db.go` regenerated on
this run (`Verif/Extracted/DBSkel.lean`, by harness/srcfacts/chain.go; map expressions rooted at
the receiver are printed with their index expressions elided, `get` marks a map read) has the
shape `Verif/Model/KV.lean` transcribes:

  * `MemDB.get`: pending puts, then pending deletes (⇒ nil), then the committed bucket
  * `MemDB.put` / `delete`: refused iff the bucket exists nowhere; record in one pending map and
    remove from the other
  * `MemDB.Flush`: puts applied, then deletes, each pending map emptied; `Cancel` empties both
  * `cacheBucket.Get`: the overlay's value if non-nil, else nil if the overlay deleted the key,
    else the backend; `Iter` yields the overlay, then the backend minus overlaid keys
  * `CacheDB.Flush`: overlay puts not shadowed by an overlay delete go to the backend as puts,
    then the overlay deletes as deletes, the overlay is cleared, the backend flushed last
-/
import Verif.Extracted.DBSkel

namespace Verif.C17Src
open Verif.Skel Verif.Extracted

theorem src_db_skeletons_balanced :
    balanced skel_MemDB_Flush 0 = true ∧ balanced skel_MemDB_Cancel 0 = true ∧ balanced skel_MemDB_get 0 = true ∧
    balanced skel_MemDB_put 0 = true ∧ balanced skel_MemDB_delete 0 = true ∧ balanced skel_cacheBucket_Get 0 = true ∧
    balanced skel_cacheBucket_Iter 0 = true ∧ balanced skel_CacheDB_Flush 0 = true := by decide +kernel

/-- `MemDB.get`: puts, then dels (nil), then the committed bucket -/
theorem src_memdb_get :
    skel_MemDB_get = [.call "get" ["db.puts[][]"], .ifc [] [], .ret ["v"], .done,
      .call "get" ["db.dels[][]"], .ifc [] [], .ret ["nil"], .done,
      .ret ["v:db.buckets[][]"]] := rfl

/-- `MemDB.put`: an error iff the bucket has neither pending puts nor a committed map; the value
goes to `puts`, the key leaves `dels` -/
theorem src_memdb_put :
    skel_MemDB_put = [.ifc ["db.puts[]"] ["=="], .ifc ["db.buckets[]"] ["=="], .ret ["E"], .done,
      .set "db.puts[]", .done, .set "db.puts[][]", .call "delete" ["db.dels[]"], .ret ["nil"]] := rfl

/-- `MemDB.delete`: the mirror image -/
theorem src_memdb_delete :
    skel_MemDB_delete = [.ifc ["db.dels[]"] ["=="], .ifc ["db.buckets[]"] ["=="], .ret ["E"], .done,
      .set "db.dels[]", .done, .set "db.dels[][]", .call "delete" ["db.puts[]"], .ret ["nil"]] := rfl

/-- a bucket exists iff it has a committed map, pending puts or pending deletes; creating an
existing one is an error, creating a new one makes both pending maps -/
theorem src_memdb_buckets :
    skel_MemDB_Bucket = [.ifc ["db.buckets[]", "db.puts[]", "db.dels[]"] ["==", "&&", "==", "&&", "=="],
      .ret ["nil"], .done, .ret ["v"]] ∧
    skel_MemDB_CreateBucket = [.call "db.Bucket" [], .ifc ["db.Bucket()"] ["!="], .ret ["nil", "E"], .done,
      .set "db.puts[]", .set "db.dels[]", .call "db.Bucket" [], .ret ["v", "nil"]] := ⟨rfl, rfl⟩

/-- `MemDB.Flush`: a loop over the pending puts writing into the committed maps and dropping
each pending map, then a loop over the pending deletes removing from the committed maps and
dropping each pending map — deletes are NOT folded into the puts loop -/
theorem src_memdb_flush :
    (skel_MemDB_Flush.filter (fun t => isRange "db.puts" t || isRange "db.dels" t) =
      [.loop ["range", "db.puts"] [], .loop ["range", "db.dels"] []]) ∧
    guardedBy (· == .set "db.buckets[][]") (isRange "db.puts") skel_MemDB_Flush = true ∧
    guardedBy (isCallA "delete" ["db.puts"]) (isRange "db.puts") skel_MemDB_Flush = true ∧
    guardedBy (isCallA "delete" ["db.buckets[]"]) (isRange "db.dels") skel_MemDB_Flush = true ∧
    guardedBy (isCallA "delete" ["db.dels"]) (isRange "db.dels") skel_MemDB_Flush = true ∧
    occurs (· == .set "db.buckets[][]") skel_MemDB_Flush = true ∧
    occurs (isCallA "delete" ["db.buckets[]"]) skel_MemDB_Flush = true ∧
    occurs (isCallA "delete" ["db.puts"]) skel_MemDB_Flush = true ∧
    occurs (isCallA "delete" ["db.dels"]) skel_MemDB_Flush = true ∧
    -- the deletes loop is not nested in the puts loop
    guardedBy (isRange "db.dels") (isRange "db.puts") skel_MemDB_Flush = false := by decide +kernel

/-- `MemDB.Cancel` empties both pending maps and touches nothing else -/
theorem src_memdb_cancel :
    skel_MemDB_Cancel = [.loop ["range", "db.puts"] [], .call "delete" ["db.puts"], .done,
      .loop ["range", "db.dels"] [], .call "delete" ["db.dels"], .done] := rfl

/-- `cacheBucket.Get`: overlay value if non-nil (`!= nil`, not a length test), else nil if the
overlay deleted the key, else the backend's value -/
theorem src_cache_get :
    skel_cacheBucket_Get = [.call "b.mb.Get" [], .ifc [] ["!="], .ret ["v"], .done,
      .call "get" ["b.mb.db.dels[][]"], .ifc [] [], .ret ["nil"], .done,
      .call "b.db.Get" [], .ret ["v"]] := rfl

/-- writes go to the overlay only -/
theorem src_cache_put_delete :
    matchPrefix [isCall "b.mb.Put", fun t => match t with | .ret [_] => true | _ => false] skel_cacheBucket_Put = true ∧
    skel_cacheBucket_Put.length = 2 ∧
    matchPrefix [isCall "b.mb.Delete", fun t => match t with | .ret [_] => true | _ => false] skel_cacheBucket_Delete = true ∧
    skel_cacheBucket_Delete.length = 2 := by decide +kernel

/-- `cacheBucket.Iter`: the overlay first, then the backend's pairs except keys the overlay put or
deleted -/
theorem src_cache_iter :
    hasInfix [(· == .loop ["range", "b.mb.Iter()", "b.mb"] []), isCall "yield"] skel_cacheBucket_Iter = true ∧
    hasInfix [(· == .loop ["range", "b.db.Iter()", "b.db"] []), isCallA "get" ["b.mb.db.puts[][]"],
      isCallA "get" ["b.mb.db.dels[][]"], (· == .ifc [] ["||"]), (· == .cont), (· == .done), isCall "yield"]
      skel_cacheBucket_Iter = true ∧
    firstBefore (· == .loop ["range", "b.mb.Iter()", "b.mb"] []) (· == .loop ["range", "b.db.Iter()", "b.db"] [])
      skel_cacheBucket_Iter = true := by decide +kernel

/-- `CacheDB.Bucket` exists iff the backend's does (the overlay's is created on demand);
`CreateBucket` creates in the backend first and stops at its error; `Cancel` cancels both -/
theorem src_cachedb_buckets :
    skel_CacheDB_Bucket = [.call "db.db.Bucket" [], .ifc [] ["=="], .ret ["nil"], .done,
      .call "db.mem.Bucket" [], .ifc ["db.mem.Bucket()", "db.mem"] ["=="], .call "db.mem.CreateBucket" [], .done,
      .ret ["v"]] ∧
    skel_CacheDB_CreateBucket = [.call "db.db.CreateBucket" [], .ifc [] ["!="], .ret ["nil", "E"], .done,
      .call "db.mem.CreateBucket" [], .ifc [] ["!="], .ret ["nil", "E"], .done, .call "db.Bucket" [], .ret ["v", "nil"]] ∧
    skel_CacheDB_Cancel = [.call "db.mem.Cancel" [], .call "db.db.Cancel" []] := ⟨rfl, rfl, rfl⟩

/-- `CacheDB.Flush`: overlay puts (skipping keys the overlay also deleted) reach the backend as
`Put`s before the overlay deletes reach it as `Delete`s; then the three overlay maps are cleared
and the backend is flushed last, its error returned -/
theorem src_cachedb_flush :
    hasInfix [isRange "db.mem.puts", isCallA "get" ["db.kvs[]"], isRange "puts",
      isCallA "get" ["db.mem.dels[][]"], (· == .ifc [] []), (· == .cont)] skel_CacheDB_Flush = true ∧
    firstBefore (isCall ".Put") (isCall ".Delete") skel_CacheDB_Flush = true ∧
    firstBefore (isRange "db.mem.puts") (isRange "db.mem.dels") skel_CacheDB_Flush = true ∧
    (callNames skel_CacheDB_Flush).count ".Put" = 1 ∧ (callNames skel_CacheDB_Flush).count ".Delete" = 1 ∧
    (skel_CacheDB_Flush.reverse.take 11).reverse =
      [.loop ["range", "db.mem.buckets"] [], .call "clear" ["_"], .done,
       .loop ["range", "db.mem.puts"] [], .call "clear" ["_"], .done,
       .loop ["range", "db.mem.dels"] [], .call "clear" ["_"], .done,
       .call "db.db.Flush" [], .ret ["v"]] := by decide +kernel


/-- the puts loop of `MemDB.Flush` copies every pending pair into the committed map (created if
absent) and ALWAYS drops the pending map afterwards — no `continue`, no adoption of the pending
map as the committed one (which would alias them until the next flush) -/
theorem src_memdb_flush_puts_loop :
    hasInfix [isRange "db.puts", (· == .ifc ["db.buckets[]"] ["=="]), (· == .set "db.buckets[]"), (· == .done),
      isRange "puts", (· == .set "db.buckets[][]"), (· == .done), isCallA "delete" ["db.puts"], (· == .done)]
      skel_MemDB_Flush = true ∧
    occurs (· == .cont) skel_MemDB_Flush = false ∧ occurs (· == .brk) skel_MemDB_Flush = false ∧
    (skel_MemDB_Flush.filter (· == .set "db.buckets[]")).length = 2 := by decide +kernel

end Verif.C17Src
