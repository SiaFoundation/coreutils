/-
C14, source tie: the lock discipline of the submission and lookup methods, over the table regenerated
from chain/manager.go on every run (`Extracted.managerLocks`).  The lookups `PoolTransaction` /
`V2PoolTransaction` and the listings re-validate (and rewrite) the pool before they read it: they are
writers and need the EXCLUSIVE lock for their whole body.  Same theorems as `Props/C05Src.lean`,
restated for these methods.
-/
import Verif.Lemmas.SkelTok
import Verif.Lemmas.LockTab
import Verif.Extracted.ChainSkel

namespace Verif.C14Src
open Verif.Skel Verif.Extracted Verif.LockTab

def submitLookupMethods : List String :=
  ["AddPoolTransactions", "AddV2PoolTransactions", "PoolTransaction", "PoolTransactions", "V2PoolTransaction",
   "V2PoolTransactions", "TransactionsForPartialBlock", "revalidatePool", "checkTxnSet", "updateV2TransactionProofs"]

def submitLookupLocks := managerLocks.filter (fun e => submitLookupMethods.contains e.1)

theorem src_manager_mutex_exclusive : managerMutexType = "sync.Mutex" := by decide +kernel

/-- every submission and lookup method runs under `m.mu` from its first statement to its return, the two
submission methods opening it once for the listeners (the five statements that follow, together) -/
theorem src_lookup_lock_discipline :
    opsClosed submitLookupLocks = true ∧ exportedLockFirst submitLookupLocks = true ∧
    internalNeverLock submitLookupLocks = true ∧
    ((submitLookupLocks.filter (fun e => (lkOps e).contains "Unlock")).map (·.1) = ["AddPoolTransactions", "AddV2PoolTransactions"] ∧
      submitLookupLocks.all (fun e => windowsClosed (lkOps e)) = true ∧
      submitLookupLocks.all (fun e => (lkOps e).count "Unlock" ≤ 1) = true) ∧
    (submitLookupMethods.all (fun n => managerLocks.any (·.1 == n)) = true ∧
      submitLookupLocks.length = submitLookupMethods.length) := by
  -- one evaluation, so that the table is filtered by method name (string comparisons) once
  decide +kernel

/-- no `RLock`/`TryLock` on these paths -/
theorem src_lookup_lock_ops_closed : opsClosed submitLookupLocks = true := src_lookup_lock_discipline.1

/-- every exported one takes the lock first, releases it by a deferred unlock, and reads nothing of
the manager before the lock is held -/
theorem src_lookup_exported_methods_lock_first : exportedLockFirst submitLookupLocks = true :=
  src_lookup_lock_discipline.2.1

/-- the helpers never operate on the lock -/
theorem src_lookup_internal_methods_never_lock : internalNeverLock submitLookupLocks = true :=
  src_lookup_lock_discipline.2.2.1

/-- only the two submission methods open the lock in the middle (listener window), once each -/
theorem src_lookup_unlock_windows :
    (submitLookupLocks.filter (fun e => (lkOps e).contains "Unlock")).map (·.1) = ["AddPoolTransactions", "AddV2PoolTransactions"] ∧
    submitLookupLocks.all (fun e => windowsClosed (lkOps e)) = true ∧
    submitLookupLocks.all (fun e => (lkOps e).count "Unlock" ≤ 1) = true := src_lookup_lock_discipline.2.2.2.1

/-- non-vacuity -/
theorem src_lookup_lock_table_covers :
    submitLookupMethods.all (fun n => managerLocks.any (·.1 == n)) = true ∧
    submitLookupLocks.length = submitLookupMethods.length := src_lookup_lock_discipline.2.2.2.2

end Verif.C14Src
