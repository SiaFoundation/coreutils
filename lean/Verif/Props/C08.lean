/-
C08 — the host commits only doubly-signed, monotone, value-conserving revisions.

Property theorems only.  Model: `Verif/Model/Rhp.lean` (every revising handler of
`/repo/rhp/v4/server.go`: lock, challenge, request validation, `ReviseFor*`, renter signature over
the recomputed revision, host signature, the contractor's own checks — in source order); lemmas:
`Verif/Lemmas/Rhp.lean`.  Signatures are ideal (a signature is the pair (key, signed object)).
Tied to the real code by `harness/c08` (every revising RPC × 36 single-field corruptions and
replays by a raw renter, histories, renewal, expiry; recording Contractor; consensus validation
of the latest revision).
-/
import Verif.Lemmas.Rhp
import Verif.Extracted.RhpHostFacts

namespace Verif.C08
open Verif.Rhp

/-- the amount due for the service a request asks for, under the price table it carries (the usage
formulas of `go.sia.tech/core/rhp/v4`), or the deposited total when funding accounts -/
def amountDue (h : Host) (cs : CState) : Req → Nat
  | .free _ p _ is _ => freeCost p.f is.length
  | .append _ p _ sectors _ =>
      appendCost p.f (appendGrowth cs.c.body (acceptedRoots h sectors).length) (cs.c.body.expHeight - p.f.tipHeight)
  | .roots _ p _ len _ => rootsCost p.f len
  | .fund _ ds _ => depositTotal ds
  | .replenish pool _ accounts target _ _ =>
      depositTotal (replenishDeposits (if pool then poolBal h.pools else h.accounts) target accounts)
  | _ => 0

/-- the contract a request addresses -/
def contractOf : Req → Option Nat
  | .free cid _ _ _ _ | .append cid _ _ _ _ | .roots cid _ _ _ _ | .fund cid _ _ | .replenish _ cid _ _ _ _ => some cid
  | _ => none

/-- **Every revision the host persists or signs** — for any host state and any request whatsoever —
belongs to a revisable contract, has the next revision number, the same keys, heights and total
collateral, moves exactly the amount due from the renter's to the host's payout (so the payout sum
is constant and no value moves to the renter), does not raise the missed host value, and carries a
renter signature and a host signature over exactly that revision (`RevStep`). -/
theorem persisted_revision_ok (h : Host) (r : Req) :
    (∀ cid c roots, (Rhp.decide h r).eff = .revise cid c roots →
       ∃ cs, h.contracts cid = some cs ∧ revisable h cs = true ∧ contractOf r = some cid ∧
         RevStep cs.c c (amountDue h cs r)) ∧
    (∀ pool cid c ds, (Rhp.decide h r).eff = .credit pool cid c ds →
       ∃ cs, h.contracts cid = some cs ∧ revisable h cs = true ∧ contractOf r = some cid ∧
         RevStep cs.c c (amountDue h cs r) ∧ amountDue h cs r = depositTotal ds) := by
  constructor
  · intro cid c roots he
    obtain hf | hj := decide_justified h r
    · cases hf.eff.symm.trans he
    rw [he] at hj
    obtain ⟨⟨cs, -, hc, hr, -⟩, cs', hc', ho⟩ := hj
    cases hc.symm.trans hc'
    obtain ⟨p, chal, is, second, rfl, hs⟩ | ⟨p, chal, sectors, second, rfl, hs⟩ | ⟨p, off, len, sig, rfl, hs⟩ := ho
    · exact ⟨cs, hc, hr, rfl, hs⟩
    · exact ⟨cs, hc, hr, rfl, hs⟩
    · exact ⟨cs, hc, hr, rfl, hs⟩
  · intro pool cid c ds he
    obtain hf | hj := decide_justified h r
    · cases hf.eff.symm.trans he
    rw [he] at hj
    obtain ⟨⟨cs, hc, hr, hs, -⟩, -, ⟨sig, rfl, rfl⟩ | ⟨accounts, target, chal, second, rfl, rfl⟩⟩ := hj
    · exact ⟨cs, hc, hr, rfl, hs, rfl⟩
    · exact ⟨cs, hc, hr, rfl, hs, rfl⟩

/-- the totals the host charges never leave the 128-bit range of `types.Currency`: a fund or
replenish request whose deposits add up beyond 2^128-1 is never committed (the handler's
`Currency.Add` panics and the stream is closed), so the natural-number arithmetic of the model and
the 128-bit arithmetic of the code agree on every committed revision — no total can wrap -/
theorem credited_total_fits_currency (h : Host) (r : Req) (pool : Bool) (cid : Nat) (c : Contract) (ds : List (Nat × Nat))
    (he : (Rhp.decide h r).eff = .credit pool cid c ds) : depositTotal ds ≤ maxCurrency := by
  obtain hf | hj := decide_justified h r
  · cases hf.eff.symm.trans he
  · rw [he] at hj
    exact hj.2.1

/-- a fund request whose deposits overflow 128 bits changes nothing, whatever it is signed over -/
theorem overflowing_deposits_change_nothing (h : Host) (cid : Nat) (ds : List (Nat × Nat)) (sig : Sig)
    (hov : maxCurrency < depositTotal ds) : (step h (.fund cid ds sig)).1 = h := by
  refine step_eq_of_not_accepted ?_
  rintro ⟨cs, b', -, -, -, -, hle, -⟩
  omega

/-- **the replenish deposits are fixed at the quote**: whenever a replenish handler credits, the list
it hands to the contractor is exactly the list it quoted in its first response (computed from the
balances at that moment), the revision both parties signed pays exactly the total of that list, and
crediting that list adds exactly the quoted amounts to *whatever* the balances are by then — so
nothing that happens between the quote and the renter's signature (a paid read or write on another
stream, a funding through another contract) can make the amount credited differ from the amount
signed for -/
theorem replenish_credits_the_quote (h : Host) (pool : Bool) (cid : Nat) (accounts : List Nat) (target : Nat)
    (chal : Sig) (second : Option Sig) (pool' : Bool) (cid' : Nat) (c : Contract) (ds : List (Nat × Nat))
    (he : (decideReplenish h pool cid accounts target chal second).eff = .credit pool' cid' c ds) :
    ds = replenishDeposits (if pool then poolBal h.pools else h.accounts) target accounts ∧
    (decideReplenish h pool cid accounts target chal second).out.vals = ds.map (·.2) ∧
    (∃ cs, h.contracts cid = some cs ∧ RevStep cs.c c (depositTotal ds)) ∧
    (∀ (later : Nat → Nat) (a : Nat), creditAccounts later ds a = later a + depositTo a ds) ∧
    (∀ (later : Nat → Option Nat) (a : Nat), poolBal (creditPools later ds) a = poolBal later a + depositTo a ds) := by
  change (Rhp.decide h (.replenish pool cid accounts target chal second)).eff = _ at he
  change _ ∧ (Rhp.decide h (.replenish pool cid accounts target chal second)).out.vals = _ ∧ _
  obtain hr | ⟨cs, -, -, -, hc, -, -, -, ⟨-, hd⟩ | ⟨-, b', rsig, hb, -, hv, hacc, hd⟩⟩ :=
    decide_spec h (.replenish pool cid accounts target chal second)
  · rw [hr.eff] at he; cases he
  · rw [hd] at he; cases he
  · rw [hd] at he ⊢
    cases he
    exact ⟨rfl, rfl, ⟨cs, hc, revStep_of_paid (pay_some hb).1 hv hacc⟩,
      fun later a => creditAccounts_apply _ later a, fun later a => creditPools_apply _ later a⟩

/-- what `RevStep` says, spelled out in the property's words -/
theorem revStep_meaning {old new : Contract} {cost : Nat} (s : RevStep old new cost) :
    old.body.rev < new.body.rev ∧
    new.body.renterKey = old.body.renterKey ∧ new.body.hostKey = old.body.hostKey ∧
    new.body.proofHeight = old.body.proofHeight ∧ new.body.expHeight = old.body.expHeight ∧
    new.body.totalColl = old.body.totalColl ∧
    new.body.renterOut + new.body.hostOut = old.body.renterOut + old.body.hostOut ∧
    old.body.hostOut ≤ new.body.hostOut ∧
    old.body.renterOut - new.body.renterOut = cost ∧ new.body.renterOut ≤ old.body.renterOut ∧
    new.body.missedHost ≤ old.body.missedHost ∧
    verify new.body.renterKey (.contract new.body) new.renterSig = true ∧
    verify new.body.hostKey (.contract new.body) new.hostSig = true := by
  have := s.rev; have := s.renterOut; have := s.hostOut; have := s.afford
  refine ⟨by omega, s.renterKey, s.hostKey, s.proofHeight, s.expHeight, s.totalColl, by omega, by omega, by omega,
    by omega, s.missed, ?_, ?_⟩
  · rw [verify_iff, s.rsig, s.renterKey]
  · rw [verify_iff, s.hsig, s.hostKey]

/-- over any sequence of operations the state of a contract only moves forward: its revision number
never falls and the contract is unchanged while the number is, capacity never shrinks, the payout
sum is constant, the host's payout never falls, the missed host value never rises, collateral,
heights and keys never change -/
theorem contract_evolves (h : Host) (ops : List Op) (cid : Nat) (cs : CState) (hc : h.contracts cid = some cs) :
    ∃ cs', (run h ops).contracts cid = some cs' ∧ Evolves cs.c cs'.c :=
  run_evolves ops h cid cs hc

/-- `consensus/validation.go:768-800`, the checks `validateRevision` makes on a revision of an
on-chain contract `cur` at child height `ht` (signatures with the *current* keys) -/
structure ConsensusRevisionOk (ht : Nat) (cur rev : Contract) : Prop where
  capacity : cur.body.capacity ≤ rev.body.capacity
  filesize : rev.body.filesize ≤ rev.body.capacity
  window : ht ≤ cur.body.proofHeight
  revnum : cur.body.rev < rev.body.rev
  sum : rev.body.renterOut + rev.body.hostOut = cur.body.renterOut + cur.body.hostOut
  missed : rev.body.missedHost ≤ cur.body.missedHost
  missedHost : rev.body.missedHost ≤ rev.body.hostOut
  totalColl : rev.body.totalColl = cur.body.totalColl
  proofHeight : ht ≤ rev.body.proofHeight
  expiry : rev.body.proofHeight < rev.body.expHeight
  renterSig : verify cur.body.renterKey (.contract rev.body) rev.renterSig = true
  hostSig : verify cur.body.hostKey (.contract rev.body) rev.hostSig = true

/-- **The latest revision is always acceptable to consensus as a revision of the on-chain
contract**: take any state the host ever held for a contract as the on-chain one (`cs0`, from an
invariant-satisfying host), run any sequence of operations; if the host's latest revision is newer
and the proof window has not opened, it passes every check of `validateRevision`. -/
theorem latest_revision_acceptable (h : Host) (hi : Inv h) (ops : List Op) (cid : Nat) (cs0 cs1 : CState)
    (hc0 : h.contracts cid = some cs0) (hc1 : (run h ops).contracts cid = some cs1)
    (hnewer : cs0.c.body.rev < cs1.c.body.rev) (ht : Nat) (hwin : ht ≤ cs0.c.body.proofHeight) :
    ConsensusRevisionOk ht cs0.c cs1.c := by
  obtain ⟨cs', h1, e⟩ := run_evolves ops h cid cs0 hc0
  rw [hc1] at h1; simp only [Option.some.injEq] at h1; subst h1
  have inv := run_inv ops hi cid cs1 hc1
  constructor
  · exact e.capacity
  · exact inv.cap
  · exact hwin
  · exact hnewer
  · exact e.sum
  · exact e.missed
  · exact inv.missed
  · exact e.totalColl
  · rw [e.proofHeight]; exact hwin
  · exact inv.heights
  · rw [verify_iff, inv.rsig, e.renterKey]
  · rw [verify_iff, inv.hsig, e.hostKey]

/-- and whatever the host holds is doubly signed, at every moment of every history -/
theorem always_doubly_signed (h : Host) (hi : Inv h) (ops : List Op) (cid : Nat) (cs : CState)
    (hc : (run h ops).contracts cid = some cs) :
    verify cs.c.body.renterKey (.contract cs.c.body) cs.c.renterSig = true ∧
    verify cs.c.body.hostKey (.contract cs.c.body) cs.c.hostSig = true := by
  have inv := run_inv ops hi cid cs hc
  exact ⟨by rw [verify_iff, inv.rsig], by rw [verify_iff, inv.hsig]⟩

/-- any request that is not answered `ok` — failed check, abort, undecodable — changes nothing at all -/
theorem rejected_unchanged (h : Host) (r : Req) (hfail : (step h r).2.1.cls ≠ .ok) : (step h r).1 = h :=
  (decide_good h r).elim step_eq_of_eff_none fun hok => absurd hok hfail

/-- a contract is revised only through a request that addresses it, and only while it is revisable
(not renewed, proof height not reached) -/
theorem only_revisable_contracts_change (h : Host) (r : Req) (cid : Nat) (cs : CState)
    (hc : h.contracts cid = some cs) (hnot : revisable h cs = false ∨ contractOf r ≠ some cid) :
    (step h r).1.contracts cid = some cs := by
  have hp := persisted_revision_ok h r
  have hne : ∀ cid' cs1, h.contracts cid' = some cs1 → revisable h cs1 = true → contractOf r = some cid' → cid ≠ cid' := by
    rintro _ cs1 hc1 hr hco rfl
    cases hc.symm.trans hc1
    rcases hnot with h1 | h1
    · cases h1.symm.trans hr
    · exact h1 hco
  simp only [step]
  cases he : (Rhp.decide h r).eff with
  | revise cid' c roots =>
    obtain ⟨cs1, hc1, hr, hco, -⟩ := hp.1 cid' c roots he
    simp only [apply, hc1, upd_other _ _ _ _ (hne cid' cs1 hc1 hr hco), hc]
  | credit pool cid' c ds =>
    obtain ⟨cs1, hc1, hr, hco, -⟩ := hp.2 pool cid' c ds he
    simp only [apply, hc1]
    cases pool <;> exact (upd_other _ _ _ _ (hne cid' cs1 hc1 hr hco)).trans hc
  | _ => exact hc

/-- the individual gates, each of which alone makes the request change nothing: a challenge that
is not the renter's signature over (contract, next revision number) … -/
theorem bad_challenge_changes_nothing (h : Host) (cid : Nat) (cs : CState) (hc : h.contracts cid = some cs)
    (p : Prices) (chal : Sig) (l : List Nat) (second : Option Sig)
    (hbad : chal ≠ .mk cs.c.body.renterKey (.challenge cid (cs.c.body.rev + 1))) :
    (step h (.free cid p chal l second)).1 = h ∧ (step h (.append cid p chal l second)).1 = h := by
  constructor
  · refine step_eq_of_not_accepted ?_
    rintro ⟨cs1, _, _, hc1, -, hv, -⟩
    cases hc.symm.trans hc1
    exact absurd ((verify_iff _ _ _).mp hv) hbad
  · refine step_eq_of_not_accepted ?_
    rintro ⟨cs1, _, _, -, -, -, hc1, -, hv, -⟩
    cases hc.symm.trans hc1
    exact absurd ((verify_iff _ _ _).mp hv) hbad

/-- … a replenish challenge that is not the renter's signature over (accounts, target, contract,
current revision number) … -/
theorem bad_replenish_challenge_changes_nothing (h : Host) (cid : Nat) (cs : CState) (hc : h.contracts cid = some cs)
    (pool : Bool) (accounts : List Nat) (target : Nat) (chal : Sig) (second : Option Sig)
    (hbad : chal ≠ .mk cs.c.body.renterKey (.replChallenge accounts target cid cs.c.body.rev)) :
    (step h (.replenish pool cid accounts target chal second)).1 = h := by
  refine step_eq_of_not_accepted ?_
  rintro ⟨cs1, -, -, -, hc1, -, hv, -⟩
  cases hc.symm.trans hc1
  exact absurd ((verify_iff _ _ _).mp hv) hbad

/-- … a price table that is expired or not signed by this host over exactly its fields … -/
theorem bad_prices_change_nothing (h : Host) (cid : Nat) (p : Prices) (hbad : pricesValid h p = false)
    (chal : Sig) (l : List Nat) (second : Option Sig) (off len : Nat) (sig : Sig) :
    (step h (.free cid p chal l second)).1 = h ∧ (step h (.append cid p chal l second)).1 = h ∧
    (step h (.roots cid p off len sig)).1 = h := by
  refine ⟨step_eq_of_not_accepted ?_, step_eq_of_not_accepted ?_, step_eq_of_not_accepted ?_⟩
  · rintro ⟨_, _, _, -, -, -, hv, -⟩
    cases hbad.symm.trans hv
  · rintro ⟨_, _, _, hv, -⟩
    cases hbad.symm.trans hv
  · rintro ⟨_, _, -, -, hv, -⟩
    cases hbad.symm.trans hv

/-- … a renter signature that is anything but the renter key's signature over exactly the revision
the host recomputed (another revision number — stale, equal or future — another payout, root, size,
key, height, collateral; another key; a replayed signature): here for fund and, in the next theorem,
for free; the other revising handlers alike -/
theorem wrong_revision_signature_changes_nothing (h : Host) (cid : Nat) (cs : CState) (hc : h.contracts cid = some cs)
    (ds : List (Nat × Nat)) (sig : Sig)
    (hbad : ∀ b', reviseFund cs.c.body (depositTotal ds) = some b' → sig ≠ .mk cs.c.body.renterKey (.contract b')) :
    (step h (.fund cid ds sig)).1 = h := by
  refine step_eq_of_not_accepted ?_
  rintro ⟨cs1, b', -, -, hc1, -, -, hb, hv, -⟩
  cases hc.symm.trans hc1
  exact absurd ((verify_iff _ _ _).mp hv) (hbad b' hb)

/-- … and for free, whose revision also commits to the roots left after the swap-removes -/
theorem wrong_free_signature_changes_nothing (h : Host) (cid : Nat) (cs : CState) (hc : h.contracts cid = some cs)
    (p : Prices) (chal : Sig) (is : List Nat) (rsig : Sig)
    (hbad : ∀ b', reviseFree cs.c.body p.f (metaRoot (freeBatch cs.roots is)) is.length = some b' →
      rsig ≠ .mk cs.c.body.renterKey (.contract b')) :
    (step h (.free cid p chal is (some rsig))).1 = h := by
  refine step_eq_of_not_accepted ?_
  rintro ⟨cs1, b', rsig', hc1, -, -, -, -, -, -, hs, hb, hv, -⟩
  cases hc.symm.trans hc1
  cases hs
  exact absurd ((verify_iff _ _ _).mp hv) (hbad b' hb)

/-- a signature valid for one revision is not valid for the next: replaying it changes nothing -/
theorem replayed_fund_signature_changes_nothing (h : Host) (cid : Nat) (ds : List (Nat × Nat)) (sig : Sig)
    (hok : (step h (.fund cid ds sig)).2.1.cls = .ok) :
    (step (step h (.fund cid ds sig)).1 (.fund cid ds sig)).1 = (step h (.fund cid ds sig)).1 := by
  obtain hr | ⟨cs, b', -, -, hc, -, -, hb, hv, -, hd⟩ := decide_spec h (.fund cid ds sig)
  · exact absurd hok hr.cls
  have hst : (step h (.fund cid ds sig)).1.contracts cid = some { cs with c := signed h b' sig } := by
    simp only [step, hd, apply, hc, Bool.false_eq_true, if_false, upd_same]
  apply wrong_revision_signature_changes_nothing _ cid _ hst
  intro b2 hb2 heq
  have hv' := (verify_iff _ _ _).mp hv
  rw [hv'] at heq
  -- the second revision has a higher revision number than the first
  obtain ⟨p1, _, _, _⟩ := pay_some hb
  obtain ⟨p2, _, _, _⟩ := pay_some hb2
  have h1 := p1.rev
  have h2 : b2.rev = b'.rev + 1 := p2.rev
  injection heq with _ hm
  injection hm with hbb
  rw [hbb] at h2
  omega

open Verif.Extracted in
/-- `Extracted/RhpHostFacts.lean` is regenerated from `/repo/rhp/v4/server.go` by `vh srcfacts`: in
every revising handler the contract is locked first and the unlock deferred right away (so handlers
on one contract are serialised and every exit releases the lock), the renter's signature is
verified after that and before the host signs, the host signs before the single persisting call -/
theorem source_order_revising_handlers :
    ∀ hd ∈ [RhpHost.free, RhpHost.append, RhpHost.roots, RhpHost.fund, RhpHost.replenishAccounts, RhpHost.replenishPools],
      hd.found = true ∧ 0 < hd.lock ∧ hd.lock < hd.deferUnlock ∧ hd.deferUnlock < hd.verifySig ∧
      hd.verifySig < hd.hostSign ∧ hd.hostSign ≤ hd.persist ∧ hd.persistCalls = 1 := by
  decide

open Verif.Extracted in
/-- … and the challenge signature is checked under the lock, before anything else is computed -/
theorem source_order_challenges :
    ∀ hd ∈ [RhpHost.free, RhpHost.append, RhpHost.replenishAccounts, RhpHost.replenishPools],
      hd.deferUnlock < hd.challenge ∧ hd.challenge < hd.verifySig := by
  decide

/-! ### non-vacuity -/

namespace Example
def b0 : Body := { rev := 0, renterOut := 10 ^ 15, hostOut := 10 ^ 15 + 5, missedHost := 10 ^ 15, totalColl := 10 ^ 15,
                   filesize := 0, capacity := 0, proofHeight := 100, expHeight := 244, renterKey := 3, hostKey := 1,
                   root := .zero }
def c0 : Contract := { body := b0, renterSig := .mk 3 (.contract b0), hostSig := .mk 1 (.contract b0) }
def sign (h : Host) (cid : Nat) (amount : Nat) : Sig :=
  match h.contracts cid with
  | some cs => match reviseFund cs.c.body amount with
    | some b => .mk cs.c.body.renterKey (.contract b)
    | none => .bad
  | none => .bad
def h0 : Host := run (Host.init 1 1000 10) [.form 1 c0]
def s1 : Sig := sign h0 1 700
def h1 : Host := (step h0 (.fund 1 [(10, 300), (11, 400)] s1)).1

example : (h1.contracts 1).map (·.c.body.rev) = some 1 := by decide
example : (h1.contracts 1).map (·.c.body.renterOut) = some (10 ^ 15 - 700) := by decide
example : (h1.contracts 1).map (·.c.body.hostOut) = some (10 ^ 15 + 705) := by decide
-- replaying the same signature
example : (step h1 (.fund 1 [(10, 300), (11, 400)] s1)).2.1.cls = .badreq := by decide
-- a signature over a revision that pays one hasting less
example : (step h0 (.fund 1 [(10, 300), (11, 400)] (sign h0 1 699))).2.1.cls = .badreq := by decide
example : Inv h0 := run_inv _ (inv_init 1 1000 10)
end Example

end Verif.C08
