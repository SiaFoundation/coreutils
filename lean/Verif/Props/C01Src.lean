/-
C01, source tie: the control skeleton of `chain/manager.go` regenerated on this run
(`Verif/Extracted/ChainSkel.lean`, by harness/srcfacts/chain.go) has the shape that the model
`Verif/Model/Chain.lean` transcribes.  Each theorem is a kernel evaluation over the regenerated
data; when the source changes shape the theorem stops checking, `./check C01` searches for a
failing history with the harness and reports the broken obligation either way.

What the model takes from the code, and where it is pinned here:
  * `addBlocks`: validate (header-level) before anything is stored; known and pruned blocks are
    skipped; the reorg is attempted iff the new state is `SufficientlyHeavierThan` the tip; a
    failed reorg is followed by a reorg back to the old tip and an error; listeners are called
    only on the success path, after the reorg  (`Model/Chain.lean: addBlocks, maybeReorg`)
  * `reorgTo`: path; revert loop; apply loop; flush  (`reorgTo`)
  * `applyTip`: a block without supplement is validated before it is recorded and applied; the
    tip is assigned last  (`applyTip`);  `revertTip` likewise
  * frame: no other function of the file writes to the store or assigns the tip
-/
import Verif.Extracted.ChainSkel
import Verif.Extracted.DBSkel
import Verif.Lemmas.LockTab

namespace Verif.C01Src
open Verif.Skel Verif.Extracted

/-- the skeletons are well-formed block structures (the translator did not lose a brace) -/
theorem src_skeletons_balanced :
    balanced skel_AddBlocks 0 = true ∧ balanced skel_AddValidatedV2Blocks 0 = true ∧
    balanced skel_applyTip 0 = true ∧ balanced skel_revertTip 0 = true ∧
    balanced skel_reorgTo 0 = true ∧ balanced skel_reorgPath 0 = true := by decide +kernel

/-- every reorg started by `AddBlocks`/`AddValidatedV2Blocks` is inside the then-branch of
`if cs.SufficientlyHeavierThan(m.tipState)` (not negated, no other disjunct), and one is started -/
theorem src_reorg_only_if_sufficiently_heavier :
    guardedBy (isCall "m.reorgTo") isHeavierGuard skel_AddBlocks = true ∧
    occurs (isCall "m.reorgTo") skel_AddBlocks = true ∧
    guardedBy (isCall "m.reorgTo") isHeavierGuard skel_AddValidatedV2Blocks = true ∧
    occurs (isCall "m.reorgTo") skel_AddValidatedV2Blocks = true := by decide +kernel

/-- the tip is not touched by `AddBlocks` except through `reorgTo` -/
theorem src_addblocks_moves_tip_only_by_reorg :
    occurs isSet skel_AddBlocks = false ∧ occurs isSet skel_AddValidatedV2Blocks = false ∧
    occurs (isCall "m.applyTip") skel_AddBlocks = false ∧ occurs (isCall "m.revertTip") skel_AddBlocks = false ∧
    occurs (isCall "m.applyTip") skel_AddValidatedV2Blocks = false ∧
    occurs (isCall "m.revertTip") skel_AddValidatedV2Blocks = false := by decide +kernel

/-- the shape `if err := m.reorgTo(x); err != nil { if err := m.reorgTo(y); err != nil { return E }; return E }`
with `y ≠ x` -/
def rollbackPattern : List (Tok → Bool) :=
  [isCall "m.reorgTo", isErrCheck, isCall "m.reorgTo", isErrCheck, isRet ["E"], (· == .done), isRet ["E"], (· == .done)]

def reorgArgs : List Tok → List (List String)
  | [] => []
  | .call "m.reorgTo" a :: ts => a :: reorgArgs ts
  | _ :: ts => reorgArgs ts

/-- a failed reorg is followed by a reorg back to a different (the old) index, and an error is
returned whether or not that succeeds -/
theorem src_failed_reorg_rolled_back :
    hasInfix rollbackPattern skel_AddBlocks = true ∧ hasInfix rollbackPattern skel_AddValidatedV2Blocks = true ∧
    (∃ a b, reorgArgs skel_AddBlocks = [a, b] ∧ a ≠ b) ∧
    (∃ a b, reorgArgs skel_AddValidatedV2Blocks = [a, b] ∧ a ≠ b) := by
  refine ⟨by decide +kernel, by decide +kernel, ⟨_, _, rfl, by decide +kernel⟩, ⟨_, _, rfl, by decide +kernel⟩⟩

def isRangeOver (x : String) : Tok → Bool
  | .loop ["range", y] [] => y == x
  | _ => false

/-- listeners are collected and called only inside the heavier-guard's then-branch and after the
reorg call (whose error branch returns) -/
theorem src_notify_only_after_successful_reorg :
    guardedBy (isRangeOver "m.onReorg") isHeavierGuard skel_AddBlocks = true ∧
    guardedBy (isCall "fn") isHeavierGuard skel_AddBlocks = true ∧
    firstBefore (isCall "m.reorgTo") (isRangeOver "m.onReorg") skel_AddBlocks = true ∧
    occurs (isRangeOver "m.onReorg") (skel_AddBlocks.takeWhile (fun t => !isCall "m.reorgTo" t)) = false ∧
    guardedBy (isRangeOver "m.onReorg") isHeavierGuard skel_AddValidatedV2Blocks = true ∧
    guardedBy (isCall "fn") isHeavierGuard skel_AddValidatedV2Blocks = true ∧
    firstBefore (isCall "m.reorgTo") (isRangeOver "m.onReorg") skel_AddValidatedV2Blocks = true := by decide +kernel

/-- `AddBlocks` validates a block (`consensus.ValidateOrphan`, with an error return right after)
before the first store write, and its only store writes are `AddState`/`AddBlock` -/
theorem src_addblocks_validates_before_store :
    noneBefore isStoreWrite (isCall "consensus.ValidateOrphan") skel_AddBlocks = true ∧
    hasInfix [isCall "consensus.ValidateOrphan", isErrCheck, isRet ["E"]] skel_AddBlocks = true ∧
    (skel_AddBlocks.filter isStoreWrite = [.call "m.store.AddState" [], .call "m.store.AddBlock" []]) := by decide +kernel

/-- `AddBlocks` skips (with `continue`) a block it already has and a block whose header is present
while its body is not (pruned), before any validation -/
theorem src_addblocks_skips_known_and_pruned :
    hasInfix [isCall "m.store.Block", (· == .ifc [] ["!="]), isCall "m.store.State", (· == .cont), (· == .done),
              isCall "m.store.Header", (· == .ifc [] ["&&", "!"]), isCall "m.store.State", (· == .cont)] skel_AddBlocks = true ∧
    firstBefore (isCall "m.store.Header") (isCall "consensus.ValidateOrphan") skel_AddBlocks = true := by decide +kernel

/-- `reorgTo`: path, then a loop of `revertTip` over the revert leg, then a loop of `applyTip`
over the apply leg, each error returned at once, then `Flush`; no other store write -/
theorem src_reorgTo_shape :
    matchPrefix [isCall "m.reorgPath", isErrCheck, isRet ["E"], (· == .done),
      isRangeOver "revert", isCall "m.revertTip", isErrCheck, isRet ["E"], (· == .done), (· == .done),
      isRangeOver "apply", isCall "m.applyTip", isErrCheck, isRet ["E"], (· == .done), (· == .done),
      isCall "m.store.Flush", isErrCheck, isRet ["E"], (· == .done)] skel_reorgTo = true ∧
    (skel_reorgTo.filter isStoreWrite = [.call "m.store.Flush" []]) ∧
    occurs (isSetOf "m.tipState") skel_reorgTo = false := by decide +kernel

/-- the path `reorgTo` asks for is from the current tip to the target, unbounded -/
theorem src_reorgTo_path_args :
    skel_reorgTo.head? = some (.call "m.reorgPath" ["m.tipState.Index", "index", "math.MaxInt"]) := rfl

def inNoSupplementBranch : Tok → Bool
  | .ifc [] ["=="] => true
  | _ => false

/-- `applyTip`: a block stored without supplement is validated (`consensus.ValidateBlock`, error
returned at once) before `ApplyBlock`, `AddState`, `AddBlock`; whatever the branch, the store's
`ApplyBlock` comes after them and the tip is assigned last, exactly once -/
theorem src_applyTip_shape :
    noneBefore isStoreWrite (isCall "consensus.ValidateBlock") skel_applyTip = true ∧
    hasInfix [isCall "consensus.ValidateBlock", isErrCheck, isRet ["E"]] skel_applyTip = true ∧
    guardedBy (isCall "consensus.ValidateBlock") inNoSupplementBranch skel_applyTip = true ∧
    guardedBy (isCall "m.store.AddBlock") inNoSupplementBranch skel_applyTip = true ∧
    (skel_applyTip.filter isStoreWrite =
      [.call "m.store.AddState" [], .call "m.store.AddBlock" [], .call "m.store.ApplyBlock" []]) ∧
    (skel_applyTip.reverse.take 4).reverse =
      [.call "m.store.ApplyBlock" [], .call "m.applyPoolUpdate" ["cau", "cs"], .set "m.tipState", .ret ["nil"]] ∧
    (skel_applyTip.filter isSet = [.set "m.tipState"]) := by decide +kernel

/-- a block that already has a recorded supplement is re-applied WITH THAT supplement: the
supplement is built (`Store.SupplementTipBlock`) once, in the first-application branch only, and the
re-application branch reads the ancestor timestamp and applies, nothing else. (`UpdatesSince` and
`revertTip` replay the recorded supplement; a re-application with a freshly built one can order the
expiring contracts differently, so the tip state and the update stream would disagree on leaf
indices — seeded C06-r10m2.) -/
theorem src_applyTip_reuses_recorded_supplement :
    guardedBy (isCall "m.store.SupplementTipBlock") inNoSupplementBranch skel_applyTip = true ∧
    (callNames skel_applyTip).count "m.store.SupplementTipBlock" = 1 ∧
    ((after (· == .els) skel_applyTip).filter (fun t => match t with | .call _ _ => true | _ => false)).map
        (fun t => match t with | .call n _ => n | _ => "") =
      ["m.store.AncestorTimestamp", "m.overwriteExpirations", "consensus.ApplyBlock", "m.store.ApplyBlock",
       "m.applyPoolUpdate"] := by decide +kernel

/-- a block that does not attach to the tip is a programming error (`panic`), not a state change:
the check precedes every store access other than the read of the block -/
theorem src_applyTip_attach_check_first :
    matchPrefix [isCall "m.store.Block", (· == .ifc [] ["!"]), isRet ["E"], (· == .done),
      (fun t => match t with | .ifc _ ["!="] => true | _ => false), (· == .panic), (· == .done)] skel_applyTip = true ∧
    (skel_applyTip.filter (· == .panic)).length = 1 := by decide +kernel

/-- `revertTip`: reads block and parent state, reverts in the store, then assigns the tip -/
theorem src_revertTip_shape :
    skel_revertTip = [.call "blockAndParent" [], .ifc [] ["!"], .ret ["E"], .done,
      .call "consensus.RevertBlock" [], .call "m.store.RevertBlock" [],
      .call "m.revertPoolUpdate" ["cru", "cs"], .set "m.tipState", .ret ["nil"]] := rfl

/-- `blockAndParent` is found only if both the block and its parent's state are -/
theorem src_blockAndParent_shape :
    skel_blockAndParent = [.call "s.Block" [], .call "s.State" [], .ret ["v", "v", "v", "v:&&"]] := rfl

/-- **frame**: in all of `chain/manager.go` only these functions write to the store or assign
the tip state — every other method (pool, queries, subscriptions) leaves the chain state alone,
which is what lets the model treat `AddBlocks`, `AddValidatedV2Blocks`, `PruneBlocks` as its only
operations -/
theorem src_frame :
    chainFrame = [
      ("AddBlocks", ["AddBlock", "AddState"], []),
      ("AddValidatedV2Blocks", ["AddBlock", "AddState"], []),
      ("PruneBlocks", ["PruneBlock"], []),
      ("applyTip", ["AddBlock", "AddState", "ApplyBlock"], ["m.tipState"]),
      ("reorgTo", ["Flush"], []),
      ("revertTip", ["RevertBlock"], ["m.tipState"])] := rfl

/-- `reorgPath`: the rewinding helper stops at the length bound and at a missing header; the two
height-levelling loops and the joint loop return as soon as it fails -/
theorem src_reorgPath_shape :
    matchPrefix [(· == .fn), (· == .ifc ["len()", "len()", "maxLen"] ["+", ">"]), isRet ["false"], (· == .done),
      isCall "m.store.Header"] skel_reorgPath = true ∧
    hasInfix [(· == .loop ["a", "b"] [">"]), isCall "closure1", (· == .ifc ["closure1()", "a"] ["!"]), isRet []] skel_reorgPath = true ∧
    hasInfix [(· == .loop ["b", "a"] [">"]), isCall "closure1", (· == .ifc ["closure1()", "b"] ["!"]), isRet []] skel_reorgPath = true ∧
    hasInfix [(· == .loop ["a", "b"] ["!="]), isCall "closure1", isCall "closure1",
      (· == .ifc ["closure1()", "a", "closure1()", "b"] ["!", "||", "!"]), isRet []] skel_reorgPath = true ∧
    occurs isStoreWrite skel_reorgPath = false ∧ occurs isSet skel_reorgPath = false := by decide +kernel


/-- the reorg decision follows the per-block loop directly, for every non-empty batch: the only
successful returns are the one for an empty batch (first statement) and the last statement — no
early `return nil` (e.g. "nothing new was stored") can skip the decision -/
theorem src_addblocks_decision_always_reached :
    hasInfix [isCall "m.store.AddState", isCall "m.store.AddBlock", (· == .done),
      isCall ".SufficientlyHeavierThan", isHeavierGuard] skel_AddBlocks = true ∧
    (skel_AddBlocks.filter (isRet ["nil"])).length = 2 ∧
    matchPrefix [isCall "m.mu.Lock", (· == .defer), isCall "m.mu.Unlock",
      (· == .ifc ["len()", "blocks"] ["=="]), isRet ["nil"], (· == .done)] skel_AddBlocks = true ∧
    skel_AddBlocks.getLast? = some (.ret ["nil"]) ∧
    (skel_AddValidatedV2Blocks.filter (isRet ["nil"])).length = 2 ∧
    skel_AddValidatedV2Blocks.getLast? = some (.ret ["nil"]) := by decide +kernel

/-- `AddValidatedV2Blocks` stores every block of the batch with its supplied state
unconditionally (the only test in the loop is "is a v2 block"): a block already stored as a side
block gets its complete state (`Model/ChainF.lean: addV2LoopF`, theorem `stored_states_complete`) -/
theorem src_addv2_stores_unconditionally :
    hasInfix [(· == .loop ["range", "blocks"] []), (· == .ifc ["blocks"] ["=="]), isRet ["E"], (· == .done),
      isCall "m.store.AddBlock", isCall "m.store.AddState", (· == .done),
      isCall ".SufficientlyHeavierThan", isHeavierGuard] skel_AddValidatedV2Blocks = true := by decide +kernel


/-! ### the ancestor timestamp (pre-Oak retarget): what the manager asks for and how the store finds it -/

def ancestorArgs : List Tok → List (List String)
  | [] => []
  | .call "m.store.AncestorTimestamp" a :: ts => a :: ancestorArgs ts
  | _ :: ts => ancestorArgs ts

/-- every caller asks for the ancestor of the block's PARENT (`b.ParentID`), in both branches of
`applyTip` (first application and re-application from the store), in `AddBlocks` and in
`UpdatesSince` -/
theorem src_ancestor_timestamp_of_parent :
    ancestorArgs skel_applyTip = [[".ParentID"], [".ParentID"]] ∧
    ancestorArgs skel_AddBlocks = [[".ParentID"]] ∧
    ancestorArgs skel_UpdatesSince = [[".ParentID"]] := by decide +kernel

/-- `DBStore.AncestorTimestamp`: zero time iff the block's height is ABOVE the Oak hardfork height
(`>`); otherwise at most `AncestorDepth` and at most `height` steps, each either the jump through
the best-chain index (then stop) or one parent link; the timestamp is read once, AFTER the loop,
from the record the walk ended on -/
theorem src_store_ancestor_timestamp_shape :
    skel_DBStore_AncestorTimestamp.head? = some (.call "db.State" []) ∧
    hasInfix [(· == .ifc ["db.n.HardforkOak.Height"] [">"]), isRet ["v", "true"], (· == .done)]
      skel_DBStore_AncestorTimestamp = true ∧
    firstBefore (· == .ifc ["db.n.HardforkOak.Height"] [">"]) isLoop skel_DBStore_AncestorTimestamp = true ∧
    occurs (fun t => match t with | .loop _ ["<", "&&", "<", "++"] => true | _ => false) skel_DBStore_AncestorTimestamp = true ∧
    (skel_DBStore_AncestorTimestamp.filter isLoop).length = 1 ∧
    hasInfix [isCall "closure1", (fun t => match t with | .ifc _ ["==", "-"] => true | _ => false)]
      skel_DBStore_AncestorTimestamp = true ∧
    hasInfix [(· == .brk), (· == .done), isCall "db.getAncestorInfo", (· == .done), isCall "db.getAncestorInfo", isRet []]
      skel_DBStore_AncestorTimestamp = true ∧
    (callNames skel_DBStore_AncestorTimestamp).count "db.getAncestorInfo" = 2 ∧
    skel_DBStore_AncestorTimestamp.getLast? = some (.ret []) := by decide +kernel

/-! ### lock discipline of `chain.Manager`: the methods that read or change the CHAIN
(the pool's methods are the subject of `Props/C05Src.lean`) -/

open Verif.LockTab

/-- the methods of the manager that read or change the chain -/
def chainMethods : List String :=
  ["AddBlocks", "AddValidatedV2Blocks", "PruneBlocks", "UpdatesSince", "Tip", "TipState", "Block", "BestIndex",
   "State", "History", "Headers", "BlocksForHistory", "MinReorgIndex", "OnReorg",
   "applyTip", "revertTip", "reorgPath", "reorgTo"]

def chainLocks := managerLocks.filter (fun e => chainMethods.contains e.1)

/-- the manager's mutex is an exclusive lock: no reader can run beside a writer, or beside another
reader that fills the store's caches -/
theorem src_manager_mutex_exclusive : managerMutexType = "sync.Mutex" := by decide +kernel

/-- every chain method of `chain.Manager` runs under `m.mu` from its first statement to its return,
`AddBlocks`/`AddValidatedV2Blocks` opening it once for the listeners (the six statements that follow, together) -/
theorem src_chain_lock_discipline :
    opsClosed chainLocks = true ∧ exportedLockFirst chainLocks = true ∧ internalNeverLock chainLocks = true ∧
    ((chainLocks.filter (fun e => (lkOps e).contains "Unlock")).map (·.1) = ["AddBlocks", "AddValidatedV2Blocks"] ∧
      chainLocks.all (fun e => windowsClosed (lkOps e)) = true ∧
      chainLocks.all (fun e => (lkOps e).count "Unlock" ≤ 1) = true ∧
      chainLocks.all (fun e => !(lkExported e && lkTouches e) || (lkOps e).contains "Unlock" || e.1 == "OnReorg" ||
        lkOps e == ["Lock", "defer Unlock"]) = true) ∧
    (chainLocks.filter (fun e => lkExported e && lkTouches e)).map (fun e => (e.1, sectionsOf (lkOps e))) =
      [("AddBlocks", some 2), ("AddValidatedV2Blocks", some 2), ("BestIndex", some 1), ("Block", some 1),
       ("BlocksForHistory", some 1), ("Headers", some 1), ("History", some 1), ("MinReorgIndex", some 1),
       ("OnReorg", some 1), ("PruneBlocks", some 1), ("State", some 1), ("TipState", some 1),
       ("UpdatesSince", some 1)] ∧
    (chainMethods.all (fun n => managerLocks.any (·.1 == n)) = true ∧ chainLocks.length = chainMethods.length) := by
  -- one evaluation, so that the table is filtered by method name (string comparisons) once
  decide +kernel

/-- the only operations applied to `m.mu` are `Lock`, a deferred `Unlock` and a plain `Unlock` -/
theorem src_chain_lock_ops_closed : opsClosed chainLocks = true := src_chain_lock_discipline.1

/-- every exported chain method that touches the chain state, the store or the listener table
(directly or through an unexported method) takes the lock FIRST and releases it by a deferred
unlock; nothing is read before the lock is held -/
theorem src_chain_exported_methods_lock_first : exportedLockFirst chainLocks = true :=
  src_chain_lock_discipline.2.1

/-- `reorgTo`, `applyTip`, `revertTip`, `reorgPath` never operate on the lock: they run inside their
caller's critical section, so no window opens in the middle of a change -/
theorem src_chain_internal_methods_never_lock : internalNeverLock chainLocks = true :=
  src_chain_lock_discipline.2.2.1

/-- the lock is opened in the middle of a chain method only by `AddBlocks` and
`AddValidatedV2Blocks` (to call the listeners, see `C04Src`), once, and closed again at once;
every other chain method holds the lock from its first statement to its return -/
theorem src_chain_unlock_windows :
    (chainLocks.filter (fun e => (lkOps e).contains "Unlock")).map (·.1) = ["AddBlocks", "AddValidatedV2Blocks"] ∧
    chainLocks.all (fun e => windowsClosed (lkOps e)) = true ∧
    chainLocks.all (fun e => (lkOps e).count "Unlock" ≤ 1) = true ∧
    chainLocks.all (fun e => !(lkExported e && lkTouches e) || (lkOps e).contains "Unlock" || e.1 == "OnReorg" ||
      lkOps e == ["Lock", "defer Unlock"]) = true := src_chain_lock_discipline.2.2.2.1

/-- the shape `Model/Mutex.lean` gives a caller (`Props/C01.locked_callers_serializable`): every
exported chain method that touches the state is a sequence of critical sections — two for
`AddBlocks`/`AddValidatedV2Blocks` (change; listeners outside; epilogue), one for every other -/
theorem src_chain_methods_are_sections :
    (chainLocks.filter (fun e => lkExported e && lkTouches e)).map (fun e => (e.1, sectionsOf (lkOps e))) =
      [("AddBlocks", some 2), ("AddValidatedV2Blocks", some 2), ("BestIndex", some 1), ("Block", some 1),
       ("BlocksForHistory", some 1), ("Headers", some 1), ("History", some 1), ("MinReorgIndex", some 1),
       ("OnReorg", some 1), ("PruneBlocks", some 1), ("State", some 1), ("TipState", some 1),
       ("UpdatesSince", some 1)] := src_chain_lock_discipline.2.2.2.2.1

/-- non-vacuity: every method named above is in the table extracted from the source -/
theorem src_chain_lock_table_covers :
    chainMethods.all (fun n => managerLocks.any (·.1 == n)) = true ∧ chainLocks.length = chainMethods.length :=
  src_chain_lock_discipline.2.2.2.2.2

end Verif.C01Src
