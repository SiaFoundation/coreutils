/-
C13 — rebasing a v2 transaction set yields proofs valid at the target index.

Property theorems only (lemmas: `Verif/Lemmas/PoolRebase.lean`, `PoolParents.lean`; model:
`Verif/Model/Pool.lean`, transcribed from `updateV2TransactionProofs`, `UpdateV2TransactionSet`,
`V2TransactionSet`, `computeParentMap` of `/repo/chain/manager.go` as repaired).  Everything is for
arbitrary transaction sets, arbitrary revert/apply paths of arbitrary blocks, arbitrary pools.

`rebase cfg ts path`: `path = none` — the basis or the target is not a block the store has a full
state for; `some (rev, app)` — the two legs of `reorgPath(from, to, 144)` (that the path IS the one
via the common ancestor is `reorgPath_spec` of the chain model; the harness reads it off its own
tree).  Core's Merkle verifier is a parameter: `bad` is its verdict on an input's proof against the
claimed basis; its soundness is the explicit hypothesis `hbasis` of `rebase_leaves`.
Tied to the real code by `harness/c13`.
-/
import Verif.Lemmas.PoolRebase
import Verif.Lemmas.PoolParents

namespace Verif.C13
open Verif.Pool

/-! ### what comes back -/

/-- the same transactions minus those confirmed along the way, in the same order, with the same
input elements; the transformation of the inputs is `confirmSeq app` -/
theorem rebase_result (cfg : Cfg) (ts : List Txn) (rev app : List Blk) (out : List Txn)
    (h : rebase cfg ts (some (rev, app)) = some out) :
    out = (ts.filter fun t => !(confirmedIds app).contains t.id).map (mapInputs (confirmSeq app)) :=
  Verif.Pool.rebase_result cfg ts rev app out h

/-- ids: exactly the unconfirmed ones, order preserved -/
theorem rebase_ids (cfg : Cfg) (ts : List Txn) (rev app : List Blk) (out : List Txn)
    (h : rebase cfg ts (some (rev, app)) = some out) :
    out.map (·.id) = (ts.map (·.id)).filter (fun id => !(confirmedIds app).contains id) ∧
    (out.map (·.id)).Sublist (ts.map (·.id)) := by
  have : out.map (·.id) = (ts.map (·.id)).filter (fun id => !(confirmedIds app).contains id) := by
    rw [rebase_result cfg ts rev app out h, List.map_map, List.filter_map]
    rfl
  exact ⟨this, this ▸ List.filter_sublist⟩

/-- over a path of several blocks: a member comes back iff NO block of the apply leg confirms it —
whichever block confirms which member, in whatever order relative to the set's order; the survivors
keep their relative order (`rebase_ids`) -/
theorem rebase_removes_exactly (cfg : Cfg) (ts : List Txn) (rev app : List Blk) (out : List Txn)
    (h : rebase cfg ts (some (rev, app)) = some out) (id : Nat) :
    id ∈ out.map (·.id) ↔ id ∈ ts.map (·.id) ∧ ∀ b ∈ app, id ∉ b.v2txns.map (·.id) := by
  rw [(rebase_ids cfg ts rev app out h).1]
  simp only [List.mem_filter, Bool.not_eq_true', List.contains_eq_mem, decide_eq_false_iff_not, confirmedIds,
    List.mem_flatMap, not_exists, not_and]

/-- no transaction of the set is invented, dropped without being confirmed, or altered in anything
but the leaf indices of its inputs -/
theorem rebase_members (cfg : Cfg) (ts : List Txn) (rev app : List Blk) (out : List Txn)
    (h : rebase cfg ts (some (rev, app)) = some out) (u : Txn) :
    u ∈ out ↔ ∃ t ∈ ts, t.id ∉ confirmedIds app ∧ u = mapInputs (confirmSeq app) t := by
  rw [rebase_result cfg ts rev app out h]
  simp only [List.mem_map, List.mem_filter, Bool.not_eq_true', List.contains_eq_mem, decide_eq_false_iff_not]
  constructor
  · rintro ⟨t, ⟨ht, hc⟩, rfl⟩; exact ⟨t, ht, hc, rfl⟩
  · rintro ⟨t, ht, hc, rfl⟩; exact ⟨t, ⟨ht, hc⟩, rfl⟩

theorem rebase_elems (app : List Blk) (t : Txn) :
    (mapInputs (confirmSeq app) t).inputs.map (·.elem) = t.inputs.map (·.elem) ∧
    (mapInputs (confirmSeq app) t).outputs = t.outputs ∧ (mapInputs (confirmSeq app) t).id = t.id :=
  ⟨mapInputs_elems _ (confirmSeq_elem app) t, rfl, rfl⟩

/-- an input that was confirmed stays as it is; an ephemeral input whose element a block of the
apply leg creates comes out confirmed; one that no block creates stays ephemeral -/
theorem rebase_input_cases (app : List Blk) (i : Inp) :
    (i.leaf.isSome = true → (confirmSeq app i).leaf = i.leaf) ∧
    (i.leaf = none → (∃ b ∈ app, (b.created.lookup i.elem).isSome = true) → ((confirmSeq app i).leaf).isSome = true) ∧
    (i.leaf = none → (∀ b ∈ app, b.created.lookup i.elem = none) → confirmSeq app i = i) :=
  ⟨fun h => by obtain ⟨lf, hlf⟩ := Option.isSome_iff_exists.1 h; rw [confirmSeq_of_leaf app hlf],
    confirmSeq_confirms app i, fun _ => confirmSeq_stays app i⟩

/-- **every returned leaf index is the target ledger's**: with core's verifier sound at the basis,
path blocks consistent with the ledgers they are reverted from / applied to, and no block of the
apply leg spending an input of a transaction that survives -/
theorem rebase_leaves (cfg : Cfg) (ts : List Txn) (rev app : List Blk) (out : List Txn) (lfrom : Ledger)
    (h : rebase cfg ts (some (rev, app)) = some out)
    (hbasis : ∀ t ∈ ts, ∀ i ∈ t.inputs, ∀ lf, i.leaf = some lf → i.bad = false → lfrom.leafOf i.elem = some lf)
    (hrev : RevPathWF lfrom rev) (happ : AppPathWF (rev.foldl Ledger.revert lfrom) app)
    (hns : ∀ b ∈ app, ∀ t ∈ ts, t.id ∉ confirmedIds app → ∀ i ∈ t.inputs, i.elem ∉ ids b.spent) :
    ∀ t ∈ out, ∀ i ∈ t.inputs, ∀ lf, i.leaf = some lf → (ledgerAlong lfrom rev app).leafOf i.elem = some lf :=
  Verif.Pool.rebase_leaves cfg ts rev app out lfrom h hbasis hrev happ hns

/-! ### what is refused (an error, never a panic: `rebase` is a total function) -/

theorem rebase_rejects_unknown (cfg : Cfg) (ts : List Txn) : rebase cfg ts none = none := rfl

/-- a proof core rejects against the basis, on any input of any transaction -/
theorem rebase_rejects_bad_proof (cfg : Cfg) (ts : List Txn) (path : List Blk × List Blk) (t : Txn) (ht : t ∈ ts)
    (i : Inp) (hi : i ∈ t.inputs) (hl : i.leaf.isSome = true) (hb : i.bad = true) : rebase cfg ts (some path) = none := by
  refine Option.eq_none_iff_forall_ne_some.2 fun out h => ?_
  obtain ⟨lf, hlf⟩ := Option.isSome_iff_exists.1 hl
  have := basisOk_iff.1 (List.all_eq_true.1 (rebase_eq_some.1 h).1 t ht) i hi lf hlf
  rw [hb] at this
  cases this

/-- a path longer than the supported distance -/
theorem rebase_rejects_long (cfg : Cfg) (ts : List Txn) (rev app : List Blk)
    (h : cfg.maxReorg < rev.length + app.length) : rebase cfg ts (some (rev, app)) = none :=
  Option.eq_none_iff_forall_ne_some.2 fun _ h' => absurd (rebase_eq_some.1 h').2.1 (by omega)

/-- **acceptance**: a set valid at `from` (core accepts every proof; the verifier is sound: an
accepted proof means the ledger at `from` holds the element at that leaf) is moved over ANY path
within the supported distance, provided no reverted block created an input of the set and the
path's blocks are consistent with the ledgers they meet (`RevPathWF2`: what a reverted block created
lies at or beyond its parent's leaf count and everything else the ledger holds below it;
`AppLeaves`: leaf counts do not shrink along the apply leg and created elements lie below the count
of their block).  Together with the `rebase_rejects_*` theorems: a rebase of a valid set fails only
for an unknown index, too long a path, or an element created on the abandoned branch. -/
theorem rebase_accepts (cfg : Cfg) (ts : List Txn) (rev app : List Blk) (lfrom : Ledger)
    (hb : ts.all basisOk = true) (hlen : rev.length + app.length ≤ cfg.maxReorg)
    (hbasis : ∀ t ∈ ts, ∀ i ∈ t.inputs, ∀ lf, i.leaf = some lf → i.bad = false → lfrom.leafOf i.elem = some lf)
    (hrev : RevPathWF2 lfrom rev)
    (hkept : ∀ b ∈ rev, ∀ t ∈ ts, ∀ i ∈ t.inputs, i.elem ∉ ids b.created)
    (hmid : ∀ e lf, (rev.foldl Ledger.revert lfrom).leafOf e = some lf → lf < (rev.foldl Ledger.revert lfrom).numLeaves)
    (happ : AppLeaves (rev.foldl Ledger.revert lfrom).numLeaves app) :
    (rebase cfg ts (some (rev, app))).isSome = true :=
  Verif.Pool.rebase_accepts cfg ts rev app lfrom hb hlen hbasis hrev hkept hmid happ

/-- an element that does not exist below a reverted block (it was created on the abandoned branch) -/
theorem rebase_rejects_vanished (cfg : Cfg) (ts : List Txn) (rev app : List Blk) (b : Blk) (hb : b ∈ rev)
    (t : Txn) (ht : t ∈ ts) (i : Inp) (hi : i ∈ t.inputs) (lf : Nat) (hl : i.leaf = some lf) (hge : b.leavesBefore ≤ lf) :
    rebase cfg ts (some (rev, app)) = none := by
  refine Option.eq_none_iff_forall_ne_some.2 fun out h => ?_
  have := all_proofsOk.1 (List.all_eq_true.1 (rebase_eq_some.1 h).2.2.1 b hb) t ht i hi lf hl
  omega

/-- `UpdateV2TransactionSet` with `from == to` returns its input as it is (documented) -/
theorem update_same (cfg : Cfg) (path : Option (List Blk × List Blk)) (ts : List Txn) :
    updateV2TransactionSet cfg true path ts = some ts := rfl

/-! ### assembling a broadcastable set -/

/-- `V2TransactionSet`: the caller's transaction rebased from its basis to the tip, preceded by
pooled transactions only, in pool order (hence parents before children, see below), containing the
pooled creator of every input of the transaction and of every parent; an unknown basis, too long a
path or a bad proof of the caller's transaction is an error; the pool is not changed (beyond
`revalidatePool`). -/
theorem tset_spec (cfg : Cfg) (p : Pool) (path : Option (List Blk × List Blk)) (t : Txn) :
    (v2TransactionSet cfg p path t).1 = revalidate cfg p ∧
    (rebase cfg [t] path = none → (v2TransactionSet cfg p path t).2 = none) ∧
    (∀ ts, rebase cfg [t] path = some ts →
      ∃ parents, (v2TransactionSet cfg p path t).2 = some (parents ++ ts) ∧
        parents.Sublist (revalidate cfg p).v2txns ∧
        ∃ seen, parents = keepIdx (revalidate cfg p).v2txns seen ∧
          ClosedSet (revalidate cfg p).v2txns seen ∧
          (∀ i ∈ t.inputs, ∀ j, parentIndex (revalidate cfg p).v2txns i.elem = some j → j ∈ seen)) := by
  refine ⟨by unfold v2TransactionSet; simp only; split <;> rfl, ?_, ?_⟩
  · intro h; simp [v2TransactionSet, h]
  · intro ts h
    obtain ⟨hs, seen, he, hc, ht⟩ := parentsOf_spec (revalidate cfg p).v2txns t
    exact ⟨parentsOf (revalidate cfg p).v2txns t, by simp [v2TransactionSet, h], hs, seen, he, hc, ht⟩

/-- **parents before children**: in a valid pool whose elements have one creator each, the pooled
creator of an ephemeral input sits at a smaller pool position than the transaction spending it;
since the parents are returned in pool order (`tset_spec`) and contain every pooled creator, each
returned transaction comes after all its returned parents. -/
theorem creator_before_spender (cfg : Cfg) (l : Ledger) (base : MidState) (pool : List Txn)
    (hv : seqValid cfg l true base pool = true)
    (huniq : ∀ (a b : Nat) (ta tb : Txn) (e : Nat), pool[a]? = some ta → pool[b]? = some tb → e ∈ ta.outputs → e ∈ tb.outputs → a = b)
    (k : Nat) (u : Txn) (hu : pool[k]? = some u) (i : Inp) (hi : i ∈ u.inputs) (hl : i.leaf = none)
    (hbase : i.elem ∉ base.created) (j : Nat) (hj : parentIndex pool i.elem = some j) : j < k := by
  have hk : k < pool.length := (List.getElem?_eq_some_iff.1 hu).1
  have hsplit : pool = pool.take k ++ u :: pool.drop (k + 1) := by
    have hu' : pool[k] = u := (List.getElem?_eq_some_iff.1 hu).2
    rw [← hu']
    exact (List.take_append_drop k pool).symm.trans (by rw [List.drop_eq_getElem_cons hk])
  rw [hsplit] at hv
  have hr := (inpRes_ephemeral l _ hl).1 (seqValid_inpRes hv hi)
  rw [mem_msOf_created] at hr
  rcases hr with hr | hr
  · exact absurd hr hbase
  · obtain ⟨w, hw, hew⟩ := mem_createdOf.1 hr
    obtain ⟨a, ha, rfl⟩ := List.mem_take_iff_getElem.1 hw
    obtain ⟨tj, htj, hej⟩ := parentIndex_some hj
    have := huniq a j _ tj i.elem (List.getElem?_eq_getElem _) htj hew hej
    omega

/-- `UnconfirmedParents` (v1): same closure over the v1 slice -/
theorem parents_spec (cfg : Cfg) (p : Pool) (t : Txn) :
    (unconfirmedParents cfg p t).1 = revalidate cfg p ∧
    ((unconfirmedParents cfg p t).2).Sublist (revalidate cfg p).txns ∧
    ∃ seen, (unconfirmedParents cfg p t).2 = keepIdx (revalidate cfg p).txns seen ∧
      ClosedSet (revalidate cfg p).txns seen ∧
      (∀ i ∈ t.inputs, ∀ j, parentIndex (revalidate cfg p).txns i.elem = some j → j ∈ seen) := by
  obtain ⟨hs, seen, he, hc, ht⟩ := parentsOf_spec (revalidate cfg p).txns t
  exact ⟨rfl, hs, seen, he, hc, ht⟩

/-! ### non-vacuity -/

private def cfg0 : Cfg := { allow := 1, require := 100, maxWeight := 2000000, filler := 12, maxReorg := 3 }
private def tP : Txn := ⟨1, true, 2, 5, 100, [⟨10, some 3, false⟩], [20, 21]⟩   -- parent, confirmed input
private def tC : Txn := ⟨2, true, 2, 5, 100, [⟨20, none, false⟩], [30]⟩        -- child, ephemeral input
private def tQ : Txn := ⟨3, true, 2, 5, 100, [⟨11, some 4, false⟩], [40]⟩       -- independent
private def bOther : Blk := ⟨5, 6, 8, [], [], [], [(50, 6), (51, 7)]⟩            -- confirms nothing of the set
private def bConf : Blk := ⟨6, 8, 12, [], [tP], [(10, 3)], [(20, 8), (21, 9), (52, 10), (53, 11)]⟩  -- confirms the parent

/-- `[parent, child, other]` across one unrelated block stays as it is (the unrepaired code failed
here: "references element that does not exist"); across a block that confirms the parent, the
parent is dropped, the child's ephemeral input becomes leaf 8, the order is kept; a path longer
than the supported distance (here 3) is refused; a corrupted proof is refused -/
example :
    rebase cfg0 [tP, tC, tQ] (some ([], [bOther])) = some [tP, tC, tQ] ∧
    (rebase cfg0 [tP, tC, tQ] (some ([], [bOther, bConf]))).map (·.map fun t => (t.id, t.inputs.map (·.leaf)))
      = some [(2, [some 8]), (3, [some 4])] ∧
    (rebase cfg0 [tQ, tP, tC] (some ([], [bConf, ⟨7, 12, 14, [], [tQ], [(11, 4)], [(40, 12), (54, 13)]⟩]))).map (·.map (·.id))
      = some [2] ∧
    rebase cfg0 [tP] (some ([], [bOther, bOther, bOther, bOther])) = none ∧
    (rebase cfg0 [tP] (some ([], [bOther, bOther, bOther]))).isSome = true ∧
    rebase cfg0 [{ tP with inputs := [⟨10, some 3, true⟩] }] (some ([], [bOther])) = none ∧
    rebase cfg0 [tC] (some ([⟨5, 3, 6, [], [], [], []⟩], [])) = some [tC] ∧
    rebase cfg0 [tQ] (some ([⟨5, 4, 6, [], [], [], [(11, 4)]⟩], [])) = none := by
  decide +kernel

/-- non-vacuity of `rebase_accepts`: `[parent, child, other]` valid on a ledger holding elements 10
and 11 at leaves 3 and 4, moved back over a block that created nothing of it and forward over two
blocks -/
example :
    let lfrom : Ledger := ⟨[(10, 3), (11, 4), (60, 5)], 6, 5⟩
    let bRev : Blk := ⟨5, 5, 6, [], [], [], [(60, 5)]⟩
    (rebase cfg0 [tP, tC, tQ] (some ([bRev], [bOther, bConf]))).isSome = true := by
  intro lfrom bRev
  apply rebase_accepts cfg0 [tP, tC, tQ] [bRev] [bOther, bConf] lfrom (by decide) (by decide)
  · intro t ht i hi lf hlf _
    simp only [List.mem_cons, List.not_mem_nil, or_false] at ht
    rcases ht with rfl | rfl | rfl <;> simp [tP, tC, tQ] at hi <;> subst hi <;> simp at hlf <;> subst hlf <;> decide
  · refine ⟨⟨?_, by decide⟩, ?_, trivial⟩
    · intro p hp
      simp only [bRev, List.mem_cons, List.not_mem_nil, or_false] at hp
      subst hp; exact ⟨by decide, by decide⟩
    · intro e lf he hn
      have := lookup_some_mem he
      simp only [lfrom, List.mem_cons, Prod.mk.injEq, List.not_mem_nil, or_false] at this
      rcases this with ⟨rfl, rfl⟩ | ⟨rfl, rfl⟩ | ⟨rfl, rfl⟩
      · decide
      · decide
      · exact absurd (by decide) hn
  · decide
  · exact leaves_lt_of_all _ _ (by decide)
  · exact ⟨by decide, by decide, by decide, by decide, trivial⟩

end Verif.C13
