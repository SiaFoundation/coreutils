/-
C09 — the host's sector-root state always matches the committed contract, even on aborts.

Property theorems only.  Model: `Verif/Model/Rhp.lean` (the handlers of `/repo/rhp/v4/server.go` over the
reference host of `/repo/testutil/host.go`, client normalisation of `/repo/rhp/v4/rpc.go:590-600`);
helper lemmas: `Verif/Lemmas/Rhp.lean`.  Hashes are a free term algebra (`H`), signatures are
ideal, the Merkle proof verifiers of `go.sia.tech/core` appear only as explicit hypotheses.  The
model is tied to the real code by `harness/c09` (every contract size ≤ 7 × every index sequence
through the real client and a raw renter, faults at every message of free/append/roots, random
histories to 64 sectors).
-/
import Verif.Lemmas.Rhp
import Verif.Extracted.RhpHostFacts

namespace Verif.C09
open Verif.Rhp

/-! ### the commitment is binding: two different root lists never hash to the same Merkle root -/

theorem metaRoot_binds (a b : List Nat) (h : metaRoot a = metaRoot b) : a = b := by
  simpa [metaRoot_leaves] using congrArg H.leaves h

/-- `rpc.go:596-600`: what the client sends is strictly descending (hence duplicate-free) and names
exactly the indices the caller asked for -/
theorem normalize_sorted_nodup (is : List Nat) :
    (normalize is).Pairwise (· > ·) ∧ (normalize is).Nodup ∧ ∀ x, x ∈ normalize is ↔ x ∈ is := by
  refine ⟨normalize_strictDesc is, ?_, fun x => mem_normalize x is⟩
  exact (normalize_strictDesc is).imp (fun h => by omega)

/-- `server.go` free loop = the list model (swap-remove one index after the other), for every
roots list and every strictly descending in-range index list, of any length -/
theorem freeBatch_eq_swapRemoveSeq (rs is : List Nat) (hs : is.Pairwise (· > ·)) (hb : ∀ i ∈ is, i < rs.length) :
    freeBatch rs is = is.foldl swapRemove rs := by
  simpa [freeBatch] using freeWrites_take is rs 0 hs (by simpa using hb)

/-- … and it removes exactly the requested roots: what is left plus what was at the freed indices
is a permutation of the original list -/
theorem free_keeps_exactly (rs is : List Nat) (hs : is.Pairwise (· > ·)) (hb : ∀ i ∈ is, i < rs.length) :
    (is.map (fun i => rs.getD i 0) ++ freeBatch rs is).Perm rs := by
  rw [freeBatch_eq_swapRemoveSeq rs is hs hb]
  exact foldl_swapRemove_perm is rs hs hb

/-- hence a free through the real client (any indices, any order, with duplicates) behaves like the
list model on the normalised indices and loses nothing else -/
theorem client_free_is_list_model (rs is : List Nat) (hb : ∀ i ∈ is, i < rs.length) :
    freeBatch rs (normalize is) = (normalize is).foldl swapRemove rs ∧
    ((normalize is).map (fun i => rs.getD i 0) ++ freeBatch rs (normalize is)).Perm rs := by
  have hb' : ∀ i ∈ normalize is, i < rs.length := fun i hi => hb i ((mem_normalize i is).mp hi)
  exact ⟨freeBatch_eq_swapRemoveSeq _ _ (normalize_strictDesc is) hb',
         free_keeps_exactly _ _ (normalize_strictDesc is) hb'⟩

/-- why the client must normalise: on unsorted (but distinct, in-range) indices the server's loop
keeps a root that was to be freed and loses one that was to be kept -/
theorem free_unsorted_loses_root :
    ∃ rs is : List Nat, is.Nodup ∧ (∀ i ∈ is, i < rs.length) ∧
      ¬ (is.map (fun i => rs.getD i 0) ++ freeBatch rs is).Perm rs :=
  ⟨[1, 2, 3, 4], [0, 3], by decide, by decide, by decide⟩

/-- a successful free persists exactly `freeBatch roots indices` together with a revision that
commits to it -/
theorem free_commits (h : Host) (cid : Nat) (p : Prices) (chal : Sig) (is : List Nat) (second : Option Sig)
    (hok : (step h (.free cid p chal is second)).2.1.cls = .ok) :
    ∃ cs cs', h.contracts cid = some cs ∧ (step h (.free cid p chal is second)).1.contracts cid = some cs' ∧
      cs'.roots = freeBatch cs.roots is ∧ cs'.c.body.root = metaRoot cs'.roots ∧
      cs'.c.body.filesize = cs.c.body.filesize - is.length := by
  obtain hr | ⟨cs, b', rsig, hc, -, -, -, -, -, -, -, hb, -, -, hd⟩ := decide_spec h (.free cid p chal is second)
  · exact absurd hok hr.cls
  obtain ⟨-, hf, -, hroot⟩ := reviseFree_some hb
  refine ⟨cs, { cs with c := signed h b' rsig, roots := freeBatch cs.roots is }, hc, ?_, rfl, hroot, hf⟩
  simp only [step, hd, apply, hc, upd_same]

/-- a successful append persists `roots ++ accepted` (the requested roots the host stores, in
request order) together with a revision that commits to it -/
theorem append_model (h : Host) (cid : Nat) (p : Prices) (chal : Sig) (sectors : List Nat) (second : Option Sig)
    (hok : (step h (.append cid p chal sectors second)).2.1.cls = .ok) :
    ∃ cs cs', h.contracts cid = some cs ∧ (step h (.append cid p chal sectors second)).1.contracts cid = some cs' ∧
      cs'.roots = cs.roots ++ sectors.filter h.sectors ∧ cs'.c.body.root = metaRoot cs'.roots ∧
      cs'.c.body.filesize = cs.c.body.filesize + (sectors.filter h.sectors).length := by
  obtain hr | ⟨cs, b', rsig, -, -, -, hc, -, -, -, hb, -, -, -, hd⟩ := decide_spec h (.append cid p chal sectors second)
  · exact absurd hok hr.cls
  obtain ⟨-, hf, -, hroot⟩ := reviseAppend_some hb
  refine ⟨cs, { cs with c := signed h b' rsig, roots := cs.roots ++ acceptedRoots h sectors }, hc, ?_, rfl, hroot, hf⟩
  simp only [step, hd, apply, hc, upd_same]

/-- **root_commits**: from any state satisfying the invariant (in particular the empty host), after
*any* sequence of operations — RPCs with arbitrary fields and signatures, aborted or failing at
any step, chain-tip and clock changes, sectors stored, contracts formed and renewed — the roots the
host holds for every contract hash to the Merkle root of its latest revision and their number is
its file size -/
theorem root_commits (h : Host) (hi : Inv h) (ops : List Op) (cid : Nat) (cs : CState)
    (hc : (run h ops).contracts cid = some cs) :
    metaRoot cs.roots = cs.c.body.root ∧ cs.roots.length = cs.c.body.filesize :=
  ⟨(run_inv ops hi cid cs hc).root, (run_inv ops hi cid cs hc).size⟩

theorem root_commits_from_empty (hostKey now tip : Nat) (ops : List Op) (cid : Nat) (cs : CState)
    (hc : (run (Host.init hostKey now tip) ops).contracts cid = some cs) :
    metaRoot cs.roots = cs.c.body.root ∧ cs.roots.length = cs.c.body.filesize :=
  root_commits _ (inv_init hostKey now tip) ops cid cs hc

/-- **abort_atomic**: an RPC that does not end in `ok` — a failed check at any step, a stream that
ends after any message (`second = none`, `Req.garbage`, short sector data) — leaves the whole host
state (roots, revisions, balances, attachments, sectors) exactly as it was -/
theorem abort_atomic (h : Host) (r : Req) (hfail : (step h r).2.1.cls ≠ .ok) : (step h r).1 = h :=
  (decide_good h r).elim step_eq_of_eff_none fun hok => absurd hok hfail

/-- in particular when the renter stops after the host's first response of a multi-round RPC -/
theorem abandoned_after_first_round (h : Host) (cid : Nat) (p : Prices) (chal : Sig) (l : List Nat) :
    (step h (.free cid p chal l none)).1 = h ∧ (step h (.append cid p chal l none)).1 = h := by
  refine ⟨step_eq_of_not_accepted ?_, step_eq_of_not_accepted ?_⟩
  · rintro ⟨_, _, _, -, -, -, -, -, -, -, hs, -⟩
    cases hs
  · rintro ⟨_, _, _, -, -, -, -, -, -, -, -, hs, -⟩
    cases hs

/-- the pinned code's free handler wrote through the slice it shared with the contractor: the
stored roots became `freeWrites roots 0 indices` as soon as the first round was answered.  For
copy semantics `abort_atomic` holds; for shared-slice semantics it is false: -/
theorem abort_atomic_false_with_sharing :
    ∃ rs is : List Nat, is.Pairwise (· > ·) ∧ (∀ i ∈ is, i < rs.length) ∧
      metaRoot (freeWrites rs 0 is) ≠ metaRoot rs :=
  ⟨[1, 2, 3], [0], by decide, by decide, by decide⟩

open Verif.Extracted in
/-- the copy semantics the model assumes, re-read from `/repo/rhp/v4/server.go` on every run: the
free handler clones the lent roots before its first write into them (`Extracted/RhpHostFacts.lean`) -/
theorem free_clones_before_writing :
    RhpHost.free.found = true ∧ 0 < RhpHost.free.cloneRoots ∧ RhpHost.free.cloneRoots < RhpHost.free.writeRoots ∧
    RhpHost.free.writeRoots < RhpHost.free.verifySig := by
  decide

/-- **a renewal or refresh carries the root list over unchanged**: the new contract (whose capacity
is the old file size after a renew, the old capacity after a refresh — possibly larger than the
file size) gets exactly the old contract's roots, so they hash to its Merkle root and their count is
its file size from its first moment -/
theorem renewal_carries_roots (h : Host) (hi : Inv h) (cid newcid : Nat) (c : Contract) (cs : CState)
    (hc : h.contracts cid = some cs) (hok : renewOk h cid newcid c = true) :
    ∃ cs', (stepOp h (.renew cid newcid c)).1.contracts newcid = some cs' ∧ cs'.c = c ∧ cs'.roots = cs.roots ∧
      metaRoot cs'.roots = cs'.c.body.root ∧ cs'.roots.length = cs'.c.body.filesize ∧
      cs'.c.body.filesize ≤ cs'.c.body.capacity := by
  have hinv := stepOp_inv (.renew cid newcid c) hi
  have hst : (stepOp h (.renew cid newcid c)).1.contracts newcid = some { c := c, roots := cs.roots, renewed := false } := by
    simp only [stepOp, hok, if_true, hc, upd_same]
  have ci := hinv newcid _ hst
  exact ⟨_, hst, rfl, rfl, ci.root, ci.size, ci.cap⟩

/-- **a sector store that fails in the middle of an append commits nothing**: if the lookup of any
requested root fails (whatever the error — also "not found" reported as an error), the append
leaves the whole host state as it was; an unknown root is never accepted because its lookup failed -/
theorem store_failure_commits_nothing (h : Host) (cid : Nat) (p : Prices) (chal : Sig) (sectors : List Nat)
    (second : Option Sig) (r : Nat) (hr : r ∈ sectors) (hfail : h.sectorErr r = true) :
    (step h (.append cid p chal sectors second)).1 = h ∧ (step h (.append cid p chal sectors second)).2.1.cls ≠ .ok := by
  have hf := refusal_of_not_accepted (h := h) (r := .append cid p chal sectors second) ?_
  · exact ⟨step_eq_of_eff_none hf.eff, hf.cls⟩
  · rintro ⟨_, _, _, -, -, -, -, -, -, hs, -⟩
    cases hfail.symm.trans (storeFailure_none sectors [] hs r hr)

/-- a successful sector-roots RPC returns exactly the requested window of the committed roots, the
window is inside the list, and the roots stay as they were -/
theorem roots_rpc_returns_committed_slice (h : Host) (hi : Inv h) (cid : Nat) (p : Prices) (off len : Nat) (sig : Sig)
    (hok : (step h (.roots cid p off len sig)).2.1.cls = .ok) :
    ∃ cs cs', h.contracts cid = some cs ∧ (step h (.roots cid p off len sig)).1.contracts cid = some cs' ∧
      (step h (.roots cid p off len sig)).2.1.vals = (cs.roots.drop off).take len ∧
      off + len ≤ cs.roots.length ∧ 0 < len ∧ cs'.roots = cs.roots ∧ cs'.c.body.root = metaRoot cs.roots := by
  obtain hr | ⟨cs, b', hc, -, -, hl, hrange, -, hb, -, -, hd⟩ := decide_spec h (.roots cid p off len sig)
  · exact absurd hok hr.cls
  obtain ⟨-, -, -, hroot⟩ := pay_some hb
  have hinv := hi cid cs hc
  refine ⟨cs, { cs with c := signed h b' sig }, hc, ?_, ?_, ?_, by omega, rfl, hroot.trans hinv.root.symm⟩
  · simp only [step, hd, apply, hc, upd_same]
  · simp only [step, hd]
  · rw [hinv.size]; exact hrange

/-- with any complete verifier for sector-roots proofs (core's `VerifySectorRootsProof` against
`BuildSectorRootsProof`), what a successful listing returns verifies against the root committed in
the contract's revision *before* the RPC — the root the renter holds -/
theorem listed_roots_verify
    (Proof : Type) (build : List Nat → Nat → Nat → Proof) (verifyRoots : Proof → List Nat → Nat → Nat → Nat → H → Bool)
    (hComplete : ∀ rs s e, s < e → e ≤ rs.length →
      verifyRoots (build rs s e) ((rs.drop s).take (e - s)) rs.length s e (metaRoot rs) = true)
    (h : Host) (hi : Inv h) (cid : Nat) (p : Prices) (off len : Nat) (sig : Sig) (cs : CState)
    (hc : h.contracts cid = some cs)
    (hok : (step h (.roots cid p off len sig)).2.1.cls = .ok) :
    verifyRoots (build cs.roots off (off + len)) (step h (.roots cid p off len sig)).2.1.vals
      cs.c.body.filesize off (off + len) cs.c.body.root = true := by
  obtain ⟨cs1, _, hc1, _, hv, hr, hl, _, _⟩ := roots_rpc_returns_committed_slice h hi cid p off len sig hok
  have : cs1 = cs := by rw [hc] at hc1; simpa using hc1.symm
  subst this
  have hinv := hi cid cs1 hc
  rw [hv, ← hinv.size, ← hinv.root]
  have := hComplete cs1.roots off (off + len) (by omega) hr
  simpa using this

/-- every root the host lists is a sector it stores, and a well-formed, funded read of a stored
sector is served -/
theorem listed_sectors_stored (h : Host) (hi : Inv h) (ops : List Op) (cid : Nat) (cs : CState)
    (hc : (run h ops).contracts cid = some cs) (r : Nat) (hr : r ∈ cs.roots) :
    (run h ops).sectors r = true :=
  (run_inv ops hi cid cs hc).stored r hr

theorem stored_sector_readable (h : Host) (p : Prices) (t : Token) (root off len : Nat)
    (hs : h.sectors root = true) (hp : pricesValid h p = true) (ht : tokenValid h t = true)
    (hlen : 0 < len) (hrange : off + len ≤ sectorSize) (ha1 : off % leafSize = 0) (ha2 : len % leafSize = 0)
    (hfunds : canDebit h t.account (readCost p.f len) = true) :
    (step h (.read p t root off len)).2.1 = { cls := .ok, vals := [len] } := by
  have h1 : ¬ (sectorSize < off) := by omega
  have h2 : ¬ (sectorSize - off < len) := by omega
  have h3 : (off + len) % leafSize = 0 := by
    unfold leafSize at *; omega
  have h4 : len ≠ 0 := by omega
  simp [step, Rhp.decide, decideRead, hp, ht, h1, h2, h3, h4, ha1, ha2, hs, hfunds]

/-! ### non-vacuity: a concrete reachable history -/

namespace Example
def pf : PriceFields := { contractPrice := 5, collateral := 2, storage := 1, ingress := 1, egress := 1,
                          freeSector := 7, tipHeight := 10, validUntil := 2000 }
def pr : Prices := { f := pf, sig := .mk 1 (.prices pf) }
def b0 : Body := { rev := 0, renterOut := 10 ^ 15, hostOut := 10 ^ 15 + 5, missedHost := 10 ^ 15, totalColl := 10 ^ 15,
                   filesize := 0, capacity := 0, proofHeight := 100, expHeight := 244, renterKey := 3, hostKey := 1,
                   root := .zero }
def c0 : Contract := { body := b0, renterSig := .mk 3 (.contract b0), hostSig := .mk 1 (.contract b0) }
/-- what the honest renter signs: the revision the host is about to compute -/
def sign (h : Host) (cid : Nat) (f : CState → Option Body) : Sig :=
  match h.contracts cid with
  | some cs => match f cs with
    | some b => .mk cs.c.body.renterKey (.contract b)
    | none => .bad
  | none => .bad
def chal (h : Host) (cid : Nat) : Sig :=
  match h.contracts cid with
  | some cs => .mk cs.c.body.renterKey (.challenge cid (cs.c.body.rev + 1))
  | none => .bad
def h0 : Host := run (Host.init 1 1000 10) [.form 1 c0, .sector 11, .sector 12, .sector 13]
/-- append 11, 12, (unknown) 99, 13 -/
def h1 : Host := (step h0 (.append 1 pr (chal h0 1) [11, 12, 99, 13]
  (some (sign h0 1 fun cs => reviseAppend cs.c.body pf (metaRoot (cs.roots ++ [11, 12, 13])) 3)))).1
/-- free index 0 honestly -/
def h2 : Host := (step h1 (.free 1 pr (chal h1 1) [0]
  (some (sign h1 1 fun cs => reviseFree cs.c.body pf (metaRoot (freeBatch cs.roots [0])) 1)))).1
/-- a free of index 1 whose second-round signature is garbage -/
def h3 : Host := (step h2 (.free 1 pr (chal h2 1) [1] (some .bad))).1

example : (h1.contracts 1).map (·.roots) = some [11, 12, 13] := by decide
example : (h2.contracts 1).map (·.roots) = some [13, 12] := by decide
example : (h2.contracts 1).map (·.c.body.rev) = some 2 := by decide
example : (step h2 (.free 1 pr (chal h2 1) [1] (some .bad))).2.1.cls = .badreq := by decide
example : (h3.contracts 1) = (h2.contracts 1) := by decide
example : Inv h0 := run_inv _ (inv_init 1 1000 10)
example : (h2.contracts 1).map (fun cs => decide (metaRoot cs.roots = cs.c.body.root)) = some true := by decide
end Example

end Verif.C09

