/-
C10 — a successful renter RPC is cryptographically bound, whatever the host does.

The model (`Model/RhpClient.lean`) is a total function of the request
parameters and of the *list of messages the host sends*; every theorem below is universally
quantified over that list (and over the primitives), so it covers every host behaviour —
corrupted, truncated, re-signed, replayed, or stopping anywhere.  `go.sia.tech/core`'s verifiers
are parameters; what the theorems need of them is the explicit hypothesis `Sound` (what a
collision-resistant Merkle tree gives), shown satisfiable by `toy_sound` at the end.  The
vocabulary of the statements is defined here too: `slice`, `swapAll`/`freeBatch`, `Sound`,
`HostSigned`, `Charged`.

All theorems are about `Cfg.fixed` (the repaired client); `read_pinned_overdelivers` and
`roots_pinned_crashes`, `free_pinned_accepts_misshapen` are the witnesses that the pinned code (`325a596`) did not have the
property.  The tie to `/repo/rhp/v4/rpc.go` is the correspondence check `harness/c10`.
-/
import Verif.Lemmas.RhpClient

namespace Verif.C10
open Verif.RhpClient

variable {ρ π σ : Type}

/-- bytes `[off, off+len)` of a list -/
def slice {α} (l : List α) (off len : Nat) : List α := (l.drop off).take len

theorem length_slice {α} (l : List α) (off len : Nat) :
    (slice l off len).length = min len (l.length - off) := by
  rw [slice, List.length_take, List.length_drop]

/-- swap two positions (no-op when out of range) -/
def swapAt {α} (l : List α) (a b : Nat) : List α :=
  match l[a]?, l[b]? with
  | some x, some y => (l.set a y).set b x
  | _, _ => l

/-- the reference meaning of "free these sectors": the actions `convertFreeActions` hands to
the diff-proof verifier — swap the i-th index with position `n-1-i`, then trim (`freeBatch`).
It is the meaning `Sound.free` ascribes to the verifier; no link to the host model's
`Rhp.freeBatch` is claimed. -/
def swapAll {α} (l : List α) (n : Nat) : List Nat → Nat → List α
  | [], _ => l
  | x :: xs, i => swapAll (swapAt l x (n - i - 1)) n xs (i + 1)

def freeBatch {α} (rs : List α) (idx : List Nat) : List α :=
  (swapAll rs rs.length idx 0).take (rs.length - idx.length)

/-- what the theorems assume of the verifiers (`sectorRoot`/`metaRoot` are the hash functions
the host and renter agree on).  Each line: *if the verifier accepts against the root of a known
object, the verified value is the corresponding part of that object.* -/
structure Sound (P : Prims ρ π σ) (sectorRoot : List Nat → ρ) (metaRoot : List ρ → ρ) : Prop where
  range : ∀ pf data s e sec, sec.length = sectorSize →
    P.verifyRange pf data s e (sectorRoot sec) = true → data = slice sec (leafSize * s) (leafSize * (e - s))
  leaf : ∀ pf lf i sec, sec.length = sectorSize →
    P.verifyLeaf pf lf i (sectorRoot sec) = true → lf = slice sec (leafSize * i) leafSize
  roots : ∀ pf roots s e (rs : List ρ),
    P.verifyRoots pf roots rs.length s e (metaRoot rs) = true → roots = slice rs s (e - s)
  append : ∀ sub app (rs : List ρ) newRoot,
    P.verifyAppend rs.length sub app (metaRoot rs) newRoot = true → newRoot = metaRoot (rs ++ app)
  free : ∀ sub lv idx (rs : List ρ) newRoot, P.freeShapeOk sub lv idx rs.length = true →
    P.verifyFree sub lv idx rs.length (metaRoot rs) newRoot = true → newRoot = metaRoot (freeBatch rs idx)

/-- the revision carries a host signature that verifies over exactly that revision -/
def HostSigned (P : Prims ρ π σ) (key : Nat) (r : Rev ρ σ) : Prop :=
  ∃ sig, r.hostSig = some sig ∧ P.verifySig key r.unsigned sig = true

/-- what `pay` does to the money: one more revision, `cost` moved renter → host, nothing else -/
def Charged (c rev : Rev ρ σ) (cost : Nat) : Prop :=
  rev.revNum = c.revNum + 1 ∧ cost ≤ c.renterOut ∧ rev.renterOut = c.renterOut - cost ∧
  rev.hostOut = c.hostOut + cost ∧ rev.missedHost ≤ c.missedHost ∧ rev.hostKey = c.hostKey ∧
  rev.expHeight = c.expHeight

theorem charged_of_pay {c rev : Rev ρ σ} {u : Usage} (hp : pay c u = some rev) :
    Charged c rev u.renterCost ∧ rev.root = c.root ∧ rev.filesize = c.filesize := by
  obtain ⟨h1, _, rfl⟩ := pay_some hp
  exact ⟨⟨rfl, h1, rfl, rfl, Nat.sub_le _ _, rfl, rfl⟩, rfl, rfl⟩

/-- **read**: success ⇒ the bytes written to the caller are exactly bytes
`[offset, offset+length)` of the sector with the requested root — for every message list. -/
theorem read_ok_exact (P : Prims ρ π σ) (sectorRoot : List Nat → ρ) (metaRoot : List ρ → ρ)
    (hS : Sound P sectorRoot metaRoot) (prices : Prices) (reqOk : Bool) (sec : List Nat)
    (hsec : sec.length = sectorSize) (offset length : Nat) (wcap : Option Nat) (msgs : List (Msg ρ π σ))
    (out : List Nat) (u : Usage)
    (h : rpcRead Cfg.fixed P prices reqOk ⟨sectorRoot sec, offset, length, wcap⟩ msgs = .ok (out, u)) :
    out = slice sec offset length ∧ out.length = length ∧ u = readCost prices length ∧
    writerAccepts wcap out.length = true := by
  simp only [rpcRead, bind_ok_iff, check_ok_iff, expectReadResp_ok, pure_ok_iff, exists_const,
    Prod.mk.injEq] at h
  obtain ⟨hv, r, _, hdl, hw, _, hlen, hvr, hout, hu⟩ := h
  simp only [Cfg.fixed, Bool.not_true, Bool.false_or, beq_iff_eq] at hdl hlen
  simp only [Bool.and_eq_true, readValid, bne_iff_ne, ne_eq, decide_eq_true_eq, beq_iff_eq] at hv
  obtain ⟨_, ⟨⟨hne, hoff⟩, hle⟩, hal⟩ := hv
  have hrange := hS.range _ _ _ _ sec hsec hvr
  rw [hout] at hrange hlen hw
  rw [hdl] at hlen
  -- the verified data has the requested length, hence the range starts at `offset`
  have hl := congrArg List.length hrange
  rw [length_slice, hsec, hlen] at hl
  obtain ⟨h1, h2⟩ := read_range_exact hal (Nat.add_comm .. ▸ Nat.add_le_of_le_sub hoff hle) hl
  refine ⟨?_, hlen, hu.symm, hw⟩
  rw [hrange, h1, h2]

/-- **a failing writer is a failing call**: if the caller's writer stops accepting bytes before the
whole verified range has been handed to it, the call does not report success — for every host
message list, and for every configuration that checks `DataLength` (`cfg` only supplies the other
two switches). -/
theorem read_writer_failure_is_error (P : Prims ρ π σ) (prices : Prices) (reqOk : Bool) (cfg : Cfg)
    (root : ρ) (offset length k : Nat) (hk : k < length) (msgs : List (Msg ρ π σ)) :
    ∀ r, rpcRead (Cfg.mk true cfg.checkRootsLen cfg.checkFreeShape) P prices reqOk ⟨root, offset, length, some k⟩ msgs ≠ .ok r := by
  intro r h
  simp only [rpcRead, bind_ok_iff, check_ok_iff, expectReadResp_ok, pure_ok_iff, exists_const,
    Bool.not_true, Bool.false_or, beq_iff_eq] at h
  obtain ⟨_, a, _, hdl, hw, _, hlen, _, _⟩ := h
  simp only [writerAccepts, decide_eq_true_eq] at hw
  omega

/-- the pinned client (no `DataLength` check) reports success on a 32-byte request at offset 32
when the host sends the whole enclosing leaf with a proof that verifies — 64 bytes reach the
caller.  (Finding C10/read-unaligned; the real code was shown doing this by `harness/c10`.) -/
theorem read_pinned_overdelivers (P : Prims ρ π σ) (prices : Prices) (root : ρ) (pf : π)
    (leaf : List Nat) (hl : leaf.length = 64) (hv : P.verifyRange pf leaf 0 1 root = true) :
    rpcRead Cfg.pinned P prices true ⟨root, 32, 32, none⟩ [.readResp pf 64, .stream leaf]
      = .ok (leaf, readCost prices 32) := by
  have hp : pulled leaf 64 64 = leaf := by simp [pulled, ← hl]
  simp [rpcRead, writerAccepts, Bind.bind, Res.bind, check, expectReadResp, streamOf, pure, readValid, Cfg.pinned,
    leafSize, sectorSize, hp, hl, hv]

/-- **write**: success ⇒ the returned root is the root of exactly the (padded) bytes sent. -/
theorem write_ok_root [DecidableEq ρ] (P : Prims ρ π σ) (prices : Prices) (reqOk : Bool) (data : List Nat)
    (length : Nat) (msgs : List (Msg ρ π σ)) (r : ρ) (u : Usage)
    (h : rpcWrite P prices reqOk data length msgs = .ok (r, u)) :
    r = P.rootOfData (padSector (data.take length)) ∧ u = writeCost prices length := by
  simp only [rpcWrite, bind_ok_iff, check_ok_iff, expectWriteResp_ok, pure_ok_iff, exists_const,
    Prod.mk.injEq, beq_iff_eq] at h
  obtain ⟨_, _, _, w, _, hr, h1, h2⟩ := h
  exact ⟨h1 ▸ hr, h2.symm⟩

/-- **verify**: success ⇒ the host produced the leaf of the requested sector at the index the
renter drew locally. -/
theorem verify_ok_leaf (P : Prims ρ π σ) (sectorRoot : List Nat → ρ) (metaRoot : List ρ → ρ)
    (hS : Sound P sectorRoot metaRoot) (prices : Prices) (sec : List Nat)
    (hsec : sec.length = sectorSize) (index : Nat) (msgs : List (Msg ρ π σ)) (u : Usage)
    (h : rpcVerify P prices (sectorRoot sec) index msgs = .ok u) :
    ∃ pf rest, msgs = .verifyResp pf (slice sec (leafSize * index) leafSize) :: rest := by
  simp only [rpcVerify, bind_ok_iff, check_ok_iff, expectVerifyResp_ok, pure_ok_iff, exists_const] at h
  obtain ⟨r, hm, hv, _⟩ := h
  have := hS.leaf _ _ _ sec hsec hv
  exact ⟨r.1, r.2.2, by rw [hm, this]⟩

/-- **roots**: success ⇒ the returned roots are the contract's actual roots `[offset,
offset+length)`, the returned revision is the locally computed one, host-signed, and charges
exactly the price-table cost. -/
theorem roots_ok_exact (P : Prims ρ π σ) (sectorRoot : List Nat → ρ) (metaRoot : List ρ → ρ)
    (hS : Sound P sectorRoot metaRoot) (prices : Prices) (pricesOk : Bool) (c : Rev ρ σ)
    (rs : List ρ) (hroot : c.root = metaRoot rs) (hsize : c.filesize = sectorSize * rs.length)
    (offset length : Nat) (msgs : List (Msg ρ π σ)) (rev : Rev ρ σ) (u : Usage) (out : List ρ)
    (h : rpcRoots Cfg.fixed P prices pricesOk c offset length msgs = .ok (rev, u, out)) :
    out = slice rs offset length ∧ out.length = length ∧ HostSigned P c.hostKey rev ∧
    u = rootsCost prices length ∧ Charged c rev u.renterCost ∧
    rev.root = c.root ∧ rev.filesize = c.filesize := by
  simp only [rpcRoots, bind_ok_iff, check_ok_iff, ofOption_ok_iff, expectRootsResp_ok, pure_ok_iff,
    rootsCount_ok, exists_const, Prod.mk.injEq, beq_iff_eq] at h
  obtain ⟨ru, hrev, _, r, _, hlen, hvr, hsig, hr, hu, ho⟩ := h
  obtain ⟨r1, hp, rfl⟩ := reviseForRoots_some hrev
  obtain ⟨hch, hroot', hsz'⟩ := charged_of_pay hp
  rw [numSectors_ceil hsize, hroot] at hvr
  have hsl := hS.roots _ _ _ _ rs hvr
  subst ho hr hu
  refine ⟨?_, hlen, ⟨r.2.2.1, rfl, hsig⟩, rfl, ?_, ?_, ?_⟩
  · rw [hsl]; congr 1; omega
  · exact hch
  · exact hroot'
  · exact hsz'

/-- the pinned client hands a roots list of the wrong length to a verifier that panics on it:
the call neither succeeds nor returns an error.  (Finding C10/roots-count-panic.) -/
theorem roots_pinned_crashes (P : Prims ρ π σ) (prices : Prices) (c : Rev ρ σ) (pf : π)
    (r : ρ) (sig : σ) (hpay : (rootsCost prices 1).renterCost ≤ c.renterOut)
    (hsz : c.filesize = sectorSize) :
    rpcRoots Cfg.pinned P prices true c 0 1 [.rootsResp pf [r, r] sig] = .crash := by
  have hp : ∃ r1, pay c (rootsCost prices 1) = some r1 := by
    unfold pay
    have : (rootsCost prices 1).risked = 0 := rfl
    rw [if_neg (by omega), if_neg (by omega)]
    exact ⟨_, rfl⟩
  obtain ⟨r1, hr1⟩ := hp
  have hn : c.filesize / sectorSize = 1 := by
    rw [hsz]
    exact Nat.div_self (by decide)
  have hval : rootsValid c 0 1 = true := by
    simp only [rootsValid, hn]
    rfl
  unfold rpcRoots reviseForRoots
  rw [hr1, hval]
  rfl

/-- the repaired client never crashes, whatever the host sends -/
theorem roots_fixed_never_crashes (P : Prims ρ π σ) (prices : Prices) (pricesOk : Bool)
    (c : Rev ρ σ) (offset length : Nat) (msgs : List (Msg ρ π σ)) :
    rpcRoots Cfg.fixed P prices pricesOk c offset length msgs ≠ .crash := by
  intro h
  have e1 : ∀ m : List (Msg ρ π σ), expectRootsResp m ≠ .crash := by
    intro m; unfold expectRootsResp; split <;> simp
  have e2 : ∀ b, rootsCount Cfg.fixed b ≠ .crash := by
    intro b; cases b <;> simp [rootsCount, Cfg.fixed]
  simp only [rpcRoots, bind_crash_iff, check_ne_crash, ofOption_ne_crash, pure_ne_crash, e1, e2,
    or_false, and_false, exists_false] at h

/-- **append**: success ⇒ the new Merkle root is the root of the renter's previous roots
followed by the accepted sectors (a sub-list, in order, of the requested ones, chosen by one
flag per requested root); the revision is the locally computed one, host-signed; the charge is
the price-table cost of the sectors actually appended, which is at most that of the request. -/
theorem append_ok (P : Prims ρ π σ) (sectorRoot : List Nat → ρ) (metaRoot : List ρ → ρ)
    (hS : Sound P sectorRoot metaRoot) (prices : Prices) (c : Rev ρ σ)
    (rs : List ρ) (hroot : c.root = metaRoot rs) (hsize : c.filesize = sectorSize * rs.length)
    (roots : List ρ) (msgs : List (Msg ρ π σ)) (rev : Rev ρ σ) (u : Usage) (app : List ρ)
    (h : rpcAppend P prices c roots msgs = .ok (rev, u, app)) :
    (∃ acc : List Bool, acc.length = roots.length ∧ app = acceptedRoots roots acc) ∧
    rev.root = metaRoot (rs ++ app) ∧ rev.filesize = sectorSize * (rs ++ app).length ∧
    HostSigned P c.hostKey rev ∧ Charged c rev u.renterCost ∧
    u.renterCost ≤ (appendCost prices roots.length (c.expHeight - prices.tipHeight)).renterCost := by
  simp only [rpcAppend, bind_ok_iff, check_ok_iff, ofOption_ok_iff, expectAppendResp_ok,
    expectHostSig_ok, pure_ok_iff, exists_const, Prod.mk.injEq, beq_iff_eq] at h
  obtain ⟨r, _, hlen, hva, ru, hrev, s, _, hsig, hr, hu, ha⟩ := h
  rw [numSectors_ceil hsize, hroot] at hva
  have hnew := hS.append _ _ rs _ hva
  obtain ⟨r1, hp, rfl⟩ := reviseForAppend_some hrev
  obtain ⟨hch, hroot', hsz'⟩ := charged_of_pay hp
  subst hr hu ha
  have hle := acceptedRoots_length_le roots r.1
  refine ⟨⟨r.1, hlen, rfl⟩, ?_, ?_, ⟨s.1, rfl, hsig⟩, ?_, ?_⟩
  · exact hroot'.trans hnew
  · refine hsz'.trans ?_
    show c.filesize + sectorSize * _ = _
    rw [hsize, List.length_append, Nat.mul_add]
  · exact hch
  · exact appendCost_mono prices _ (Nat.le_trans (Nat.sub_le _ _) hle)

/-- **free**: success ⇒ the new Merkle root is the root of the previous roots with the
requested (sorted, de-duplicated) indices swap-removed; the file shrinks by exactly that many
sectors; the revision is the locally computed one, host-signed; the charge is the price-table
cost.  `hidx` (every index addresses an existing sector) is the caller's obligation: the client
does not check it, an honest host rejects such a request. -/
theorem free_ok (P : Prims ρ π σ) (sectorRoot : List Nat → ρ) (metaRoot : List ρ → ρ)
    (hS : Sound P sectorRoot metaRoot) (prices : Prices) (c : Rev ρ σ)
    (rs : List ρ) (hroot : c.root = metaRoot rs) (hsize : c.filesize = sectorSize * rs.length)
    (h64 : c.filesize < 2 ^ 64) (indices : List Nat) (hidx : ∀ i ∈ indices, i < rs.length)
    (msgs : List (Msg ρ π σ)) (rev : Rev ρ σ) (u : Usage)
    (h : rpcFree Cfg.fixed P prices c indices msgs = .ok (rev, u)) :
    rev.root = metaRoot (freeBatch rs (normalize indices)) ∧
    rev.filesize = sectorSize * (rs.length - (normalize indices).length) ∧
    HostSigned P c.hostKey rev ∧ Charged c rev u.renterCost ∧
    u.renterCost = prices.freeSector * (normalize indices).length ∧
    u.renterCost ≤ prices.freeSector * indices.length := by
  simp only [rpcFree, bind_ok_iff, check_ok_iff, ofOption_ok_iff, expectFreeResp_ok,
    expectHostSig_ok, pure_ok_iff, exists_const, Prod.mk.injEq] at h
  obtain ⟨r, _, hshape, hvf, ru, hrev, s, _, hsig, hr, hu⟩ := h
  have hn : c.filesize / sectorSize = rs.length := numSectors_floor hsize
  simp only [Cfg.fixed, Bool.not_true, Bool.false_or] at hshape
  rw [hn] at hshape
  rw [hn, hroot] at hvf
  have hnew := hS.free _ _ _ rs _ hshape hvf
  have hk := normalize_length_le_of_bounded indices rs.length hidx
  obtain ⟨r1, hp, rfl⟩ := reviseForFree_some hrev
  obtain ⟨hch, hroot', hsz'⟩ := charged_of_pay hp
  subst hr hu
  have hcost : (freeCost prices (normalize indices).length).renterCost
      = prices.freeSector * (normalize indices).length := by
    simp [freeCost, Usage.renterCost]
  refine ⟨?_, ?_, ⟨s.1, rfl, hsig⟩, ?_, hcost, ?_⟩
  · exact hnew
  · refine hsz'.trans ?_
    show sub64 c.filesize (sectorSize * (normalize indices).length) = _
    rw [sub64_exact h64 (by rw [hsize]; exact Nat.mul_le_mul_left _ hk), hsize,
      Nat.mul_sub]
  · exact hch
  · rw [hcost]; exact Nat.mul_le_mul_left _ (normalize_length indices)

/-- the pinned client (no proof-size check) accepts whatever `VerifyFreeSectorsProof` accepts — and
that verifier, handed too few subtree hashes, accepts a proof built for *another* index set
together with the root that results from removing those other sectors (shown on the real
verifier by `harness/c10`: 6 sectors, requested index 3, answered with the proof and root for
index 4).  (Finding C10/free-proof-substitution.) -/
theorem free_pinned_accepts_misshapen (P : Prims ρ π σ) (prices : Prices) (c : Rev ρ σ)
    (indices : List Nat) (sub lv : π) (newRoot : ρ) (sig : σ) (rev : Rev ρ σ) (u : Usage)
    (hv : P.verifyFree sub lv (normalize indices) (c.filesize / sectorSize) c.root newRoot = true)
    (hrev : reviseForFree c prices newRoot (normalize indices).length = some (rev, u))
    (hsig : P.verifySig c.hostKey rev.unsigned sig = true) :
    rpcFree Cfg.pinned P prices c indices [.freeResp sub lv newRoot, .hostSig sig]
      = .ok ({ rev with hostSig := some sig }, u) ∧
    rpcFree Cfg.fixed P prices c indices [.freeResp sub lv newRoot, .hostSig sig]
      = (if P.freeShapeOk sub lv (normalize indices) (c.filesize / sectorSize)
          then .ok ({ rev with hostSig := some sig }, u) else .err) := by
  -- both clients run to the shape check with the same result
  constructor <;>
    simp only [rpcFree, expectFreeResp, expectHostSig, ok_bind, hv, hrev, hsig, ofOption]
  · rfl
  · cases P.freeShapeOk sub lv (normalize indices) (c.filesize / sectorSize) <;> rfl

/-- **fund**: success ⇒ host-signed locally computed revision charging exactly Σ deposits. -/
theorem fund_ok (P : Prims ρ π σ) (c : Rev ρ σ) (deposits : List (Nat × Nat))
    (msgs : List (Msg ρ π σ)) (rev : Rev ρ σ) (u : Usage) (bal : List (Nat × Nat))
    (h : rpcFund P c deposits msgs = .ok (rev, u, bal)) :
    HostSigned P c.hostKey rev ∧ Charged c rev u.renterCost ∧ u.renterCost = total deposits ∧
    rev.root = c.root ∧ rev.filesize = c.filesize := by
  simp only [rpcFund, bind_ok_iff, check_ok_iff, ofOption_ok_iff, expectFundResp_ok,
    pure_ok_iff, exists_const, Prod.mk.injEq] at h
  obtain ⟨ru, hrev, _, r, _, _, hsig, hr, hu, _⟩ := h
  obtain ⟨r1, hp, rfl⟩ := reviseForFunding_some hrev
  obtain ⟨hch, hroot', hsz'⟩ := charged_of_pay hp
  subst hr hu
  refine ⟨⟨r.2.1, rfl, hsig⟩, hch, ?_, hroot', hsz'⟩
  simp [Usage.renterCost]

/-- **replenish** (accounts and pools): success ⇒ the charge is at most `target × #accounts`
(and every single deposit at most `target`); the returned revision is host-signed — either the
locally computed one, or, when the host asks for nothing, the caller's own unchanged revision
(`hIn`: which the caller holds host-signed).  Note: only the pools twin also forces
`#deposits = #accounts`; the bound does not need it. -/
theorem replenish_ok (P : Prims ρ π σ) (pools : Bool) (c : Rev ρ σ) (hIn : HostSigned P c.hostKey c)
    (accounts : List Nat) (target : Nat) (msgs : List (Msg ρ π σ)) (rev : Rev ρ σ) (u : Usage)
    (deps : List (Nat × Nat))
    (h : rpcReplenish P pools c accounts target msgs = .ok (rev, u, deps)) :
    HostSigned P c.hostKey rev ∧ u.renterCost ≤ target * accounts.length ∧
    u.renterCost = total deps ∧ (∀ d ∈ deps, d.2 ≤ target) ∧
    (pools = true → deps.length = accounts.length) ∧
    ((rev = c ∧ u.renterCost = 0) ∨ (Charged c rev u.renterCost ∧ rev.root = c.root ∧ rev.filesize = c.filesize)) := by
  simp only [rpcReplenish, bind_ok_iff, check_ok_iff, expectReplenishResp_ok, exists_const] at h
  obtain ⟨_, r, _, hpl, hany, h⟩ := h
  simp only [Bool.not_eq_eq_eq_not, Bool.not_true] at hany
  have hall : ∀ d ∈ r.1, d.2 ≤ target := by
    intro d hd
    have := List.any_eq_false.mp hany d hd
    simpa using this
  have hplen : pools = true → r.1.length = accounts.length := by
    intro hp
    simpa [hp] using hpl
  split at h
  · rename_i hz
    simp only [pure_ok_iff, Prod.mk.injEq] at h
    obtain ⟨hr, hu, hd⟩ := h
    simp only [beq_iff_eq] at hz
    subst hr hu hd
    exact ⟨hIn, by simp [Usage.renterCost], by simp [Usage.renterCost, hz], hall, hplen,
      .inl ⟨rfl, by simp [Usage.renterCost]⟩⟩
  · simp only [bind_ok_iff, check_ok_iff, ofOption_ok_iff, expectHostSig_ok, pure_ok_iff,
      exists_const, Prod.mk.injEq, decide_eq_true_eq] at h
    obtain ⟨hmax, ru, hrev, s, _, hsig, hr, hu, hd⟩ := h
    obtain ⟨r1, hp, rfl⟩ := reviseForFunding_some hrev
    obtain ⟨hch, hroot', hsz'⟩ := charged_of_pay hp
    subst hr hu hd
    have hc : ({ funding := total r.1 } : Usage).renterCost = total r.1 := by
      simp [Usage.renterCost]
    refine ⟨⟨s.1, rfl, hsig⟩, ?_, hc, hall, hplen,
      .inr ⟨hch, hroot', hsz'⟩⟩
    rw [hc]; exact hmax

/-! ## "in every other case an error": the checks are not skippable -/

/-- a proof that does not verify ⇒ no success, under either configuration -/
theorem read_rejects_bad_proof (P : Prims ρ π σ) (prices : Prices) (reqOk : Bool) (p : ReadParams ρ)
    (pf : π) (n : Nat) (rest : List (Msg ρ π σ))
    (hbad : ∀ data s e, P.verifyRange pf data s e p.root = false) (cfg : Cfg) :
    ∀ r, rpcRead cfg P prices reqOk p (.readResp pf n :: rest) ≠ .ok r := by
  intro r h
  simp only [rpcRead, bind_ok_iff, check_ok_iff, expectReadResp_ok, pure_ok_iff, exists_const] at h
  obtain ⟨_, a, hm, _, _, _, _, hv, _⟩ := h
  simp only [List.cons.injEq, Msg.readResp.injEq] at hm
  rw [← hm.1.1, hbad] at hv
  cases hv

/-- a host signature that does not verify ⇒ no success -/
theorem free_rejects_bad_signature (P : Prims ρ π σ) (prices : Prices) (c : Rev ρ σ)
    (indices : List Nat) (m : Msg ρ π σ) (s : σ) (rest : List (Msg ρ π σ))
    (hbad : ∀ r, P.verifySig c.hostKey r s = false) :
    ∀ cfg r, rpcFree cfg P prices c indices (m :: .hostSig s :: rest) ≠ .ok r := by
  intro cfg r h
  simp only [rpcFree, bind_ok_iff, check_ok_iff, ofOption_ok_iff, expectFreeResp_ok,
    expectHostSig_ok, pure_ok_iff, exists_const] at h
  obtain ⟨a, hm, _, _, ru, _, s', hs, hsig, _⟩ := h
  simp only [List.cons.injEq] at hm
  rw [← hm.2] at hs
  simp only [List.cons.injEq, Msg.hostSig.injEq] at hs
  rw [← hs.1, hbad] at hsig
  cases hsig

/-- a host that sends nothing ⇒ no RPC succeeds -/
theorem no_messages_no_success [DecidableEq ρ] (P : Prims ρ π σ) (prices : Prices) (c : Rev ρ σ) :
    (∀ cfg b p, rpcRead cfg P prices b p ([] : List (Msg ρ π σ)) = .err) ∧
    (∀ b d n r, rpcWrite P prices b d n ([] : List (Msg ρ π σ)) ≠ .ok r) ∧
    (∀ root i, rpcVerify P prices root i ([] : List (Msg ρ π σ)) = .err) ∧
    (∀ cfg idx, rpcFree cfg P prices c idx ([] : List (Msg ρ π σ)) = .err) ∧
    (∀ roots, rpcAppend P prices c roots ([] : List (Msg ρ π σ)) = .err) ∧
    (∀ ds r, rpcFund P c ds ([] : List (Msg ρ π σ)) ≠ .ok r) ∧
    (∀ b a t r, rpcReplenish P b c a t ([] : List (Msg ρ π σ)) ≠ .ok r) ∧
    (∀ cfg b o l r, rpcRoots cfg P prices b c o l ([] : List (Msg ρ π σ)) ≠ .ok r) := by
  refine ⟨?_, ?_, ?_, ?_, ?_, ?_, ?_, ?_⟩
  · intro cfg b p
    simp only [rpcRead, expectReadResp, check]
    split <;> rfl
  · intro b d n r h
    cases (check_bind_ok (check_bind_ok (check_bind_ok h).2).2).2
  · intros; rfl
  · intros; rfl
  · intros; rfl
  · intro ds r h
    obtain ⟨_, _, h⟩ := bind_ok_iff.mp h
    cases (check_bind_ok h).2
  · intro b a t r h
    cases (check_bind_ok h).2
  · intro cfg b o l r h
    obtain ⟨_, _, h⟩ := bind_ok_iff.mp h
    cases (check_bind_ok h).2

/-! ## the hypotheses are satisfiable: a transparent "hash" -/

/-- roots are the hashed objects themselves (an injective hash) -/
inductive ToyH where
  | sector (bytes : List Nat)
  | contract (roots : List ToyH)

noncomputable instance : DecidableEq ToyH := fun _ _ => Classical.propDecidable _

def toySectorRoot (b : List Nat) : ToyH := .sector b
def toyMetaRoot (rs : List ToyH) : ToyH := .contract rs

/-- proofs carry nothing; the verifier looks inside the transparent root -/
noncomputable def toyPrims : Prims ToyH Unit Nat where
  verifySig := fun k _ s => s == k
  rootOfData := toySectorRoot
  verifyRange := fun _ data s e root => match root with
    | .sector sec => data == slice sec (leafSize * s) (leafSize * (e - s))
    | _ => false
  verifyLeaf := fun _ lf i root => match root with
    | .sector sec => lf == slice sec (leafSize * i) leafSize
    | _ => false
  verifyRoots := fun _ roots n s e root => match root with
    | .contract rs => rs.length == n && roots == slice rs s (e - s)
    | _ => false
  verifyAppend := fun n _ app old new => match old with
    | .contract rs => rs.length == n && new == .contract (rs ++ app)
    | _ => false
  verifyFree := fun _ _ idx n old new => match old with
    | .contract rs => rs.length == n && new == .contract (freeBatch rs idx)
    | _ => false
  freeShapeOk := fun _ _ _ _ => true

theorem toy_sound : Sound toyPrims toySectorRoot toyMetaRoot where
  range := fun _ _ _ _ _ _ h => eq_of_beq h
  leaf := fun _ _ _ _ _ h => eq_of_beq h
  roots := fun _ _ _ _ _ h => eq_of_beq (Bool.and_eq_true_iff.mp h).2
  append := fun _ _ _ _ h => eq_of_beq (Bool.and_eq_true_iff.mp h).2
  free := fun _ _ _ _ _ _ h => eq_of_beq (Bool.and_eq_true_iff.mp h).2

/-- non-vacuity: success is reachable (an honest host's answer to an aligned one-leaf read is
accepted by the repaired client and delivers exactly the leaf) … -/
example : rpcRead (ρ := Nat) (π := Nat) (σ := Nat) Cfg.fixed
    { verifySig := fun _ _ _ => true, rootOfData := fun _ => 0, verifyRange := fun pf _ _ _ _ => pf == 1,
      verifyLeaf := fun _ _ _ _ => true, verifyFree := fun _ _ _ _ _ _ => true, freeShapeOk := fun _ _ _ _ => true,
      verifyAppend := fun _ _ _ _ _ => true, verifyRoots := fun _ _ _ _ _ _ => true }
    ⟨0, 0, 100, 0, 0, 0⟩ true ⟨7, 64, 64, none⟩ [.readResp 1 64, .stream (List.replicate 64 9)]
    = .ok (List.replicate 64 9, { egress := 409600 }) := by decide

/-- … and the over-long answer the pinned client accepted is now an error -/
example : rpcRead (ρ := Nat) (π := Nat) (σ := Nat) Cfg.fixed
    { verifySig := fun _ _ _ => true, rootOfData := fun _ => 0, verifyRange := fun pf _ _ _ _ => pf == 1,
      verifyLeaf := fun _ _ _ _ => true, verifyFree := fun _ _ _ _ _ _ => true, freeShapeOk := fun _ _ _ _ => true,
      verifyAppend := fun _ _ _ _ _ => true, verifyRoots := fun _ _ _ _ _ _ => true }
    ⟨0, 0, 100, 0, 0, 0⟩ true ⟨7, 32, 32, none⟩ [.readResp 1 64, .stream (List.replicate 64 9)]
    = .err := by decide

end Verif.C10
