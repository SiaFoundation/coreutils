/-
C14 — pool submission and lookup honour their documented contracts.

Property theorems only (helper lemmas: `Verif/Lemmas/Pool.lean`, `PoolValid.lean`; model: `Verif/Model/Pool.lean`,
transcribed from `/repo/chain/manager.go` as repaired by the `fix:` commits recorded in
`known_findings.jsonl`).  Every theorem is about an arbitrary pool state reachable from an empty
pool on an arbitrary ledger by ANY sequence of submissions (v1 / v2, any basis path, any set), tip
changes (any reverted / applied blocks, any verdicts of core on re-offered transactions) and
queries: `reach cfg l ops`.  No bound on the length of the history, the sets or the pool.

`seen cfg p` is the pool as every entry point sees it (each starts with `revalidatePool`).
The model is tied to the real `chain.Manager` by `harness/c14` (results of every call, the pool
after every step, every lookup).
-/
import Verif.Lemmas.PoolValid

namespace Verif.C14
open Verif.Pool

def reach (cfg : Cfg) (l : Ledger) (ops : List Op) : Pool := run cfg (Pool.init l) ops

def seen (cfg : Cfg) (p : Pool) : Pool := revalidate cfg p

theorem seen_idxOK (cfg : Cfg) (l : Ledger) (ops : List Op) : IdxOK (seen cfg (reach cfg l ops)) :=
  revalidate_idxOK cfg _ (run_inv cfg ops _ (init_inv l))

/-! ### lookups: precisely the pooled transaction with that id, or absence — for ANY id -/

/-- `PoolTransaction(id)` returns `t` iff `t` is a pooled v1 transaction and its id is `id`
(in particular never a v2 transaction, never a transaction with another id). -/
theorem lookup_v1_exact (cfg : Cfg) (l : Ledger) (ops : List Op) (id : Nat) (t : Txn) :
    (poolTransaction cfg (reach cfg l ops) id).2 = some t ↔
      t ∈ (seen cfg (reach cfg l ops)).txns ∧ t.id = id :=
  lookupIn_iff (seen_idxOK cfg l ops).v1 id t

/-- … and reports absence iff no pooled v1 transaction has that id (whatever else has it) -/
theorem lookup_v1_absent (cfg : Cfg) (l : Ledger) (ops : List Op) (id : Nat) :
    (poolTransaction cfg (reach cfg l ops) id).2 = none ↔
      ∀ t ∈ (seen cfg (reach cfg l ops)).txns, t.id ≠ id :=
  lookupIn_none_iff (seen_idxOK cfg l ops).v1 id

theorem lookup_v2_exact (cfg : Cfg) (l : Ledger) (ops : List Op) (id : Nat) (t : Txn) :
    (v2PoolTransaction cfg (reach cfg l ops) id).2 = some t ↔
      t ∈ (seen cfg (reach cfg l ops)).v2txns ∧ t.id = id :=
  lookupIn_iff (seen_idxOK cfg l ops).v2 id t

theorem lookup_v2_absent (cfg : Cfg) (l : Ledger) (ops : List Op) (id : Nat) :
    (v2PoolTransaction cfg (reach cfg l ops) id).2 = none ↔
      ∀ t ∈ (seen cfg (reach cfg l ops)).v2txns, t.id ≠ id :=
  lookupIn_none_iff (seen_idxOK cfg l ops).v2 id

/-- a lookup changes nothing but what `revalidatePool` does (and is total: the model's lookup has
no failing index expression; the bounds and id checks are the repaired code's) -/
theorem lookup_pure (cfg : Cfg) (p : Pool) (id : Nat) :
    (poolTransaction cfg p id).1 = seen cfg p ∧ (v2PoolTransaction cfg p id).1 = seen cfg p :=
  ⟨rfl, rfl⟩

/-- the pool never holds two transactions with the same id, in either slice or across them at
different positions: the shared index map is a function -/
theorem pooled_ids_unique (cfg : Cfg) (l : Ledger) (ops : List Op) (i j : Nat) (t u : Txn)
    (hi : (seen cfg (reach cfg l ops)).txns[i]? = some t ∨ (seen cfg (reach cfg l ops)).v2txns[i]? = some t)
    (hj : (seen cfg (reach cfg l ops)).txns[j]? = some u ∨ (seen cfg (reach cfg l ops)).v2txns[j]? = some u)
    (hid : t.id = u.id) : i = j := by
  have idx : ∀ i t, (seen cfg (reach cfg l ops)).txns[i]? = some t ∨ (seen cfg (reach cfg l ops)).v2txns[i]? = some t →
      (seen cfg (reach cfg l ops)).indices t.id = some i :=
    fun i t h => h.elim ((seen_idxOK cfg l ops).v1 i t) ((seen_idxOK cfg l ops).v2 i t)
  have a := idx i t hi
  rw [hid, idx j u hj] at a
  exact (Option.some.inj a).symm

/-! ### submission: all of the not-yet-known transactions or none; `known` iff all pooled -/

/-- the four outcomes of `AddPoolTransactions` / `AddV2PoolTransactions` on the set that is
validated (for v2: the set moved from its basis to the tip), relative to the pool `q` the call saw -/
structure SubmitSpec (cfg : Cfg) (v2 : Bool) (q : Pool) (set : List Txn) (r : Pool × Res) : Prop where
  /-- never the nil mid-state dereference -/
  no_panic : r.2 ≠ .panic
  /-- an error leaves both slices, the index map and the weight exactly as they were: NONE of the
  set's transactions is added, whichever position failed -/
  err_none : r.2 = .err → r.1.txns = q.txns ∧ r.1.v2txns = q.v2txns ∧ r.1.indices = q.indices ∧ r.1.weight = q.weight
  /-- `known` changes nothing at all -/
  known_same : r.2 = .known → r.1 = q
  /-- `known` exactly when the set is valid against the tip and every transaction is pooled -/
  known_iff : r.2 = .known ↔ seqValid cfg q.led v2 MidState.empty set = true ∧ ∀ t ∈ set, t.id ∈ poolIds q
  /-- success appends, in the set's order, exactly the transactions whose ids were not pooled (each
  once) to the slice of its kind, leaves the other slice alone, and afterwards EVERY transaction of
  the set is pooled -/
  ok_all : r.2 = .ok → ∃ new, own v2 r.1 = own v2 q ++ new ∧ other v2 r.1 = other v2 q ∧ new ≠ [] ∧
      new.Sublist set ∧ (∀ t ∈ new, t.id ∉ poolIds q) ∧ (∀ t ∈ set, t.id ∈ poolIds r.1) ∧
      (∀ t ∈ set, t.id ∉ poolIds q → t.id ∈ new.map (·.id))

theorem addSet_spec (cfg : Cfg) (v2 : Bool) (q : Pool) (set : List Txn) (hms : q.ms.isSome = true)
    (hq : IdxOK q) : SubmitSpec cfg v2 q set (addSet cfg v2 q set) := by
  have ho := addSet_outcome cfg v2 q set hms
  generalize addSet cfg v2 q set = r at ho
  cases ho with
  | invalid hv =>
    exact ⟨nofun, fun _ => ⟨rfl, rfl, rfl, rfl⟩, nofun, ⟨nofun, fun h => by rw [hv] at h; cases h.1⟩, nofun⟩
  | known hv hall =>
    exact ⟨nofun, nofun, fun _ => rfl, ⟨fun _ => ⟨hv, fun t ht => (hq.isSome_iff _).1 (hall t ht)⟩, fun _ => rfl⟩, nofun⟩
  | conflict p' hv hnot h1 h2 h3 h4 _ _ _ hms' =>
    exact ⟨nofun, fun _ => ⟨h1, h2, h3, h4⟩, nofun,
      ⟨nofun, fun h => absurd (fun t ht => (hq.isSome_iff _).2 (h.2 t ht)) hnot⟩, nofun⟩
  | added p' new hv h1 h2 hne hsub hnone hkeep hall hw _ _ _ hms' hk =>
    have hnew : ∀ t ∈ new, t.id ∉ poolIds q := fun t ht hm => by
      have := (hq.isSome_iff _).2 hm
      rw [hnone t ht] at this
      cases this
    refine ⟨nofun, nofun, nofun, ⟨nofun, fun h => ?_⟩, fun _ => ⟨new, h1, h2, hne, hsub, hnew,
      fun t ht => ((hk hq).isSome_iff _).1 (hall t ht), fun t ht hn => ?_⟩⟩
    · obtain ⟨t, ht⟩ := List.exists_mem_of_ne_nil _ hne
      exact (hnew t ht (h.2 t (hsub.subset ht))).elim
    · -- an id that is pooled afterwards and was not before is one of the appended ones
      apply Decidable.byContradiction
      intro hc
      have h1 := hall t ht
      rw [hkeep t.id hc] at h1
      exact hn ((hq.isSome_iff _).1 h1)

/-- a set that is not valid against the tip on its own is refused and nothing changes — whatever
the pool knows about the ids of its members -/
theorem invalid_set_rejected (cfg : Cfg) (v2 : Bool) (q : Pool) (set : List Txn)
    (h : seqValid cfg q.led v2 MidState.empty set = false) : addSet cfg v2 q set = (q, .err) := by
  unfold addSet
  rw [checkTxnSet_eq, h]
  simp

/-- in particular a set containing a transaction that consensus rejects on its own account (`ok =
false`: a broken signature) — also when that transaction is a same-id copy of a pooled one: an id
commits neither to signatures nor to proofs, so being pooled says nothing about the copy -/
theorem broken_member_rejected (cfg : Cfg) (l : Ledger) (ops : List Op) (v2 : Bool) (set : List Txn) (t : Txn)
    (ht : t ∈ set) (hok : t.ok = false) :
    addSet cfg v2 (seen cfg (reach cfg l ops)) set = (seen cfg (reach cfg l ops), .err) :=
  invalid_set_rejected cfg v2 _ set (seqValid_false_of_not_ok cfg _ v2 set _ t ht hok)

/-- **v1 submission**, for every reachable pool and every set -/
theorem add_v1_spec (cfg : Cfg) (l : Ledger) (ops : List Op) (set : List Txn) :
    SubmitSpec cfg false (seen cfg (reach cfg l ops)) set (addPoolTransactions cfg (reach cfg l ops) set) :=
  addSet_spec cfg false _ set (revalidate_ms cfg _) (seen_idxOK cfg l ops)

/-- **v2 submission**: if the set cannot be moved from its basis to the tip (unknown basis, path
longer than the supported distance, a proof core rejects, a vanished element) the call fails and
nothing changes; otherwise the moved set `set'` is submitted with the same guarantees -/
theorem add_v2_spec (cfg : Cfg) (l : Ledger) (ops : List Op) (path : Option (List Blk × List Blk)) (set : List Txn) :
    (rebase cfg set path = none →
      addV2PoolTransactions cfg (reach cfg l ops) path set = (seen cfg (reach cfg l ops), .err)) ∧
    (∀ set', rebase cfg set path = some set' →
      SubmitSpec cfg true (seen cfg (reach cfg l ops)) set' (addV2PoolTransactions cfg (reach cfg l ops) path set)) := by
  constructor
  · intro h; simp [addV2PoolTransactions, h, seen]
  · intro set' h
    have := addSet_spec cfg true _ set' (revalidate_ms cfg (reach cfg l ops)) (seen_idxOK cfg l ops)
    simpa [addV2PoolTransactions, h, seen] using this

/-- in particular: all or nothing, stated on ids.  After any submission that did not succeed, no
transaction of the set that was not pooled before is pooled; after one that succeeded, all are. -/
theorem add_v1_all_or_nothing (cfg : Cfg) (l : Ledger) (ops : List Op) (set : List Txn) :
    let q := seen cfg (reach cfg l ops)
    let r := addPoolTransactions cfg (reach cfg l ops) set
    (r.2 = .ok → ∀ t ∈ set, t.id ∈ poolIds r.1) ∧
    (r.2 ≠ .ok → poolIds r.1 = poolIds q) := by
  intro q r
  have h := add_v1_spec cfg l ops set
  constructor
  · intro hok; obtain ⟨new, _, _, _, _, _, hall, _⟩ := h.ok_all hok; exact hall
  · intro hne
    cases hr : r.2 with
    | ok => exact absurd hr hne
    | known => rw [h.known_same hr]
    | err =>
      obtain ⟨a, b, _, _⟩ := h.err_none hr
      show (r.1.txns ++ r.1.v2txns).map (·.id) = (q.txns ++ q.v2txns).map (·.id)
      rw [show r.1.txns = q.txns from a, show r.1.v2txns = q.v2txns from b]
    | panic => exact absurd hr h.no_panic

/-! ### non-vacuity: concrete reachable states -/

private def cfg0 : Cfg := { allow := 1, require := 100, maxWeight := 2000000, filler := 12 }
private def led0 : Ledger := ⟨[(1, 0), (2, 1), (3, 2)], 3, 1⟩
private def tA : Txn := ⟨10, true, 2, 5, 100, [⟨1, none, false⟩], [11]⟩      -- v1: spends element 1
private def tB : Txn := ⟨20, true, 2, 5, 100, [⟨2, some 1, false⟩], [21]⟩   -- v2: spends element 2
private def tC : Txn := ⟨30, true, 2, 5, 100, [⟨21, none, false⟩], [31]⟩    -- v2: spends B's output
private def tX : Txn := ⟨40, true, 2, 5, 100, [⟨2, some 1, false⟩], [41]⟩   -- v2: conflicts with B
private def tF : Txn := ⟨50, true, 2, 5, 100, [⟨3, some 2, false⟩], [51]⟩   -- v2: fresh

/-- a pooled v2 id asked through the v1 API is absent, through the v2 API it is found; the set
`[F, X]` (X conflicts with the pool at position 1) is rejected and F is not pooled -/
example :
    let p := reach cfg0 led0 [.addV1 [tA], .addV2 (some ([], [])) [tB, tC]]
    (poolTransaction cfg0 p 20).2 = none ∧ (v2PoolTransaction cfg0 p 20).2 = some tB ∧
    (poolTransaction cfg0 p 10).2 = some tA ∧ (v2PoolTransaction cfg0 p 10).2 = none ∧
    (addV2PoolTransactions cfg0 p (some ([], [])) [tF, tX]).2 = .err ∧
    ((addV2PoolTransactions cfg0 p (some ([], [])) [tF, tX]).1.v2txns.map (·.id)) = [20, 30] ∧
    (addV2PoolTransactions cfg0 p (some ([], [])) [tB, tC]).2 = .known ∧
    (addV2PoolTransactions cfg0 p (some ([], [])) [tB, tF]).2 = .ok := by
  decide +kernel

end Verif.C14
