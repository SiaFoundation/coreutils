/-
C06 — the wallet's ledger equals the chain's truth for its address across reorgs.

Property theorems only.  The model is `Verif/Model/WalletLedger.lean` (a transcription of
`/repo/wallet/update.go` with the accounting of `events.go`), helper lemmas are in
`Verif/Lemmas/WalletLedger.lean`.  Consensus is a parameter: a `Block` carries the element
diffs and the block contents the code reads, and the theorems assume of them what consensus
guarantees (`ValidOn`: the block's parent is the tip, what it creates is new, what it spends
is there; `LedgerValidOn`: the same for every address) — never anything about the wallet.
Which update paths occur (an apply extends the chain the store is at, a revert removes its last
block) is what `Manager.UpdatesSince` delivers (C04); `Path` is that shape.
-/
import Verif.Lemmas.WalletLedger

namespace Verif.C06
open Verif.WalletLedger

/-- chunk boundaries do not matter -/
theorem chunking_irrelevant (s : Store) (chunks : List (List Upd)) :
    chunks.foldl (fun s ch => s.run ch) s = s.run chunks.flatten := by
  induction chunks generalizing s with
  | nil => rfl
  | cons ch chunks ih =>
    rw [List.foldl_cons, ih, List.flatten_cons, Store.run, Store.run, Store.run, List.foldl_append]

/-- **store_follows_updates.** Whatever reorg history produced the update stream and however it is
cut into chunks (also chunks that end on a revert): after processing it, the store — tip,
unspent outputs with their proofs, events — is exactly the store obtained by following the
chain it ended on from nothing. -/
theorem store_follows_updates (Good : List Block → Prop) (hG : ∀ c, Good c → ChainValid Store.init c)
    (c : List Block) (hc : ChainValid Store.init c) (chunks : List (List Upd)) (c' : List Block)
    (hp : Path Good c chunks.flatten c') :
    chunks.foldl (fun s ch => s.run ch) (follow c) = follow c' := by
  rw [chunking_irrelevant]
  exact (run_follows Good hG c _ c' hp hc).1

/-- **events_exact.** The event list is exactly the events of the blocks of the chain, in order. -/
theorem events_exact (c : List Block) : (follow c).events = c.flatMap appliedEvents :=
  (events_foldl c Store.init).trans (List.nil_append _)

/-- every event carries the index of the block it came from … -/
theorem event_index (b : Block) : ∀ e ∈ appliedEvents b, e.idx = b.idx := appliedEvents_idx b

/-- **revert_removes_exactly_index.** … and a revert drops exactly the events with the reverted
index; reverting the last block of a chain gives back the store of the chain without it
(nothing of the reverted block is left, nothing else is lost). -/
theorem revert_removes_exactly_index (s : Store) (b : Block) :
    (s.revert b).events = s.events.filter fun e => e.idx != b.idx := rfl

theorem revert_last_block (c : List Block) (b : Block) (hc : ChainValid Store.init (c ++ [b])) :
    (follow (c ++ [b])).revert b = follow c :=
  revert_follow c b ((chainValid_snoc c b).mp hc).2

/-- **utxos_exact.** The stored unspent outputs are exactly the unspent siacoin elements of the
chain that pay the wallet's address, with the value and maturity height the diffs gave them. -/
theorem utxos_exact (c : List Block) (hv : LedgerChainValid (fun _ => none) c) (id : Nat) :
    ((follow c).utxos id).map (fun u => (u.value, u.maturity)) =
      match ledgerOf c id with
      | some e => if e.own then some (e.value, e.maturity) else none
      | none => none :=
  view_foldl c Store.init _ hv (fun _ => rfl) id

/-- **proofs_current.** Every stored Merkle proof is the one for the accumulator of the tip. -/
theorem proofs_current (c : List Block) : ∀ id u, (follow c).utxos id = some u → u.basis = (follow c).tip :=
  synced_follow c

/-- **balance_of_accounted.** (step towards `balance_eq`) Sum of inflows minus sum of outflows equals the sum of the unspent
outputs, for every chain whose blocks' events account for their own diffs (`Accounted`).
`ids` is any duplicate-free list naming the outputs the chain ever gave to or took from the
wallet (the sum over the store's finite map is taken over it). -/
theorem balance_of_accounted (c : List Block) (hc : ChainValid Store.init c) (ids : List Nat) (hn : ids.Nodup)
    (hb : ∀ b ∈ c, Accounted b ∧ (∀ e ∈ ownCreated b.diffs, e.id ∈ ids) ∧ (∀ e ∈ ownSpent b.diffs, e.id ∈ ids)) :
    netIn (follow c).events = netOut (follow c).events + total (follow c) ids :=
  balance_chain ids hn c Store.init hc hb (by rw [total_init]; rfl)

/-- **accounted.** The events `appliedEvents` emits for a block — miner payouts, v1/v2 transactions
with their siafund claims, v1 contract resolutions (valid or missed), v2 contract resolutions
(storage proof, expiration, renewal), foundation subsidy, through the relevance filters and
`addEvent`'s "inflow = outflow → no event" — record in total exactly what the block's diffs
create for and spend from the wallet, for every block whose contents and diffs are coherent
(`BlockCoherent`, a statement about consensus: what the block's contents pay to / take from an
address is that address's share of the created / spent elements, and a v1 input's unlock hash is
the address of the element it spends). -/
theorem accounted (b : Block) (h : BlockCoherent b) : Accounted b := by
  unfold BlockCoherent coherent at h
  simp only [Bool.and_eq_true, decide_eq_true_eq] at h
  obtain ⟨⟨hc, hs⟩, hi⟩ := h
  have hn : netIn (appliedEvents b) + taken b = netOut (appliedEvents b) + paid b := net_appliedEvents b hi
  rw [← hc, ← hs, ← Nat.add_assoc, ← Nat.add_assoc] at hn
  exact Nat.add_right_cancel hn

/-- **balance_eq** (the former TARGET `C06_balance_full`). For every chain of coherent blocks:
sum of inflows − sum of outflows = sum of the unspent outputs. -/
theorem balance_eq (c : List Block) (ids : List Nat) (hc : ChainValid Store.init c) (hn : ids.Nodup)
    (hb : ∀ b ∈ c, BlockCoherent b ∧ (∀ e ∈ ownCreated b.diffs, e.id ∈ ids) ∧ (∀ e ∈ ownSpent b.diffs, e.id ∈ ids)) :
    netIn (follow c).events = netOut (follow c).events + total (follow c) ids :=
  balance_of_accounted c hc ids hn (fun b hbc => ⟨accounted b (hb b hbc).1, (hb b hbc).2⟩)

def C06_balance_full : Prop :=
  ∀ (c : List Block) (ids : List Nat), ChainValid Store.init c → ids.Nodup →
    (∀ b ∈ c, BlockCoherent b ∧ (∀ e ∈ ownCreated b.diffs, e.id ∈ ids) ∧ (∀ e ∈ ownSpent b.diffs, e.id ∈ ids)) →
    netIn (follow c).events = netOut (follow c).events + total (follow c) ids

theorem balance_full : C06_balance_full := fun c ids hc hn hb => balance_eq c ids hc hn hb

/-- **balance_reachable.** The balance equation holds in EVERY store the wallet can reach: start
from the store of any chain of the block tree, process any update path of the shape
`UpdatesSince` delivers (any reorg history) cut into any chunks (also chunks ending on a
revert); no per-block hypothesis about the wallet is left — `Good` (the root paths of the block tree, closed under
removing the last block) only says that the chains of the tree consist of blocks that are valid on their predecessors and coherent (consensus), and
`ids` names the outputs the tree ever gives to or takes from the wallet. -/
theorem balance_reachable (Good : List Block → Prop) (ids : List Nat) (hn : ids.Nodup)
    (hG : ∀ c, Good c → ChainValid Store.init c ∧
      ∀ b ∈ c, BlockCoherent b ∧ (∀ e ∈ ownCreated b.diffs, e.id ∈ ids) ∧ (∀ e ∈ ownSpent b.diffs, e.id ∈ ids))
    (hpre : ∀ c b, Good (c ++ [b]) → Good c)
    (c : List Block) (hc : Good c) (chunks : List (List Upd)) (c' : List Block)
    (hp : Path Good c chunks.flatten c') :
    let s := chunks.foldl (fun s ch => s.run ch) (follow c)
    netIn s.events = netOut s.events + total s ids := by
  have hrun := store_follows_updates Good (fun c h => (hG c h).1) c (hG c hc).1 chunks c' hp
  simp only [hrun]
  -- the chain the path ends on is `c` itself or was introduced by an apply, hence Good
  have hgood := hp.ends_good hpre hc
  exact balance_eq c' ids (hG c' hgood).1 hn (hG c' hgood).2

/-! ### non-vacuity: a concrete reorg -/

/-- genesis pays the wallet 100 -/
private def b1 : Block :=
  ⟨1, 0, 0, [⟨⟨1, 100, 0, true⟩, true, false⟩], [⟨10, false, [], [(100, true)], []⟩], [], [], [], 90⟩
/-- the wallet mines a block: payout 50 maturing at height 5 -/
private def b2 : Block := ⟨2, 1, 1, [⟨⟨2, 50, 5, true⟩, true, false⟩], [], [], [], [(true, 2)], 91⟩
/-- a v2 transaction spends output 1: 60 back to the wallet, 40 to someone else -/
private def b3 : Block :=
  ⟨3, 2, 2, [⟨⟨1, 100, 0, true⟩, false, true⟩, ⟨⟨3, 60, 0, true⟩, true, false⟩, ⟨⟨4, 40, 0, false⟩, true, false⟩],
    [⟨11, true, [⟨1, 100, true⟩], [(60, true), (40, false)], []⟩], [], [], [(false, 5)], 92⟩
/-- the competing block at the same height: a siafund claim of 7 paid to the wallet by a
transaction without a siacoin side (the case the pinned code had no event for) -/
private def b3' : Block :=
  ⟨4, 2, 2, [⟨⟨6, 7, 6, true⟩, true, false⟩], [⟨12, false, [], [], [⟨true, 6⟩]⟩], [], [], [(false, 7)], 93⟩

example : ((follow [b1, b2, b3]).run [.revert b3, .apply b3']).events = (follow [b1, b2, b3']).events := by decide +kernel
example : (follow [b1, b2, b3']).events.map (fun e => (e.id, e.idx, e.inflow, e.outflow, e.maturity)) =
    [(10, 1, 100, 0, 0), (2, 2, 50, 0, 5), (6, 4, 7, 0, 6)] := by decide +kernel
example : [1, 2, 3, 6].map ((follow [b1, b2, b3]).run [.revert b3, .apply b3']).utxos =
    [some ⟨100, 0, 4⟩, some ⟨50, 5, 4⟩, none, some ⟨7, 6, 4⟩] := by decide +kernel
example : Accounted b1 ∧ Accounted b2 ∧ Accounted b3 ∧ Accounted b3' := by decide +kernel
example : BlockCoherent b1 ∧ BlockCoherent b2 ∧ BlockCoherent b3 ∧ BlockCoherent b3' := by decide +kernel
example : netIn (follow [b1, b2, b3]).events = netOut (follow [b1, b2, b3]).events + total (follow [b1, b2, b3]) [1, 2, 3] := by decide +kernel
example : ValidOn (follow [b1, b2]) b3 := by
  refine ⟨rfl, ?_, ?_, ?_, ?_, ?_⟩ <;> decide +kernel

end Verif.C06
