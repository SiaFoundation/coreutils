/-
C19 — pruning removes only old block bodies and never breaks the node.

Theorems about `prune` (`Manager.PruneBlocks`, as repaired: the height is clamped to tip+1) and
about resubmission of pruned blocks (`AddBlocks`, as repaired: a pruned block is skipped) in the
model `Verif/Model/Chain.lean`; the pruned-node invariant `PInv` over any interleaving of
submissions and prunes (a failed reorg is always rolled back, errors change nothing); the
simulation of the unpruned node (`pruned_simulates_unpruned`).  Tied to the code by `harness/c19`.
-/
import Verif.Lemmas.Prune
import Verif.Lemmas.PruneSim
import Verif.Lemmas.UpdatesPruned
import Verif.Props.C01
import Verif.Props.C04

namespace Verif.C19
open Verif.Chain

/-- **PruneBlocks removes nothing but bodies (and supplements) of best-chain blocks below the
height**: best chain, states and notification count are untouched, every record stays present
(so every header stays served), and a record changes only by becoming header-only, only for a
block that sits on the best chain below `min height (tip+1)`. -/
theorem prune_only_bodies (m : Mgr) (height : Nat) :
    (prune m height).best = m.best ∧ (prune m height).states = m.states ∧
    (prune m height).notified = m.notified ∧
    ∀ i, (prune m height).recs i = m.recs i ∨
      ((prune m height).recs i = some ⟨false, false⟩ ∧ (m.recs i).isSome = true ∧
        ∃ k, k < height ∧ k ≤ m.tipHeight ∧ m.bestAt k = some i) := by
  obtain ⟨h1, h2, h3, h4⟩ := prune_go_spec (min height (m.tipHeight + 1)) m
  refine ⟨h1, h2, h3, fun i => ?_⟩
  rcases h4 i with e | ⟨e1, e2, k, hk, e3⟩
  · exact Or.inl e
  · exact Or.inr ⟨e1, e2, k, by omega, by omega, e3⟩

/-- hence tip, best index at every height, header presence, states and the history sample are
exactly as before -/
theorem prune_keeps_queries (m : Mgr) (height : Nat) :
    (prune m height).tip = m.tip ∧
    (∀ k, (prune m height).bestAt k = m.bestAt k) ∧
    (∀ i, (prune m height).header i = m.header i) ∧
    (∀ i, (prune m height).states i = m.states i) ∧
    history (prune m height) = history m := by
  obtain ⟨h1, h2, _, h4⟩ := prune_only_bodies m height
  have hb : ∀ k, (prune m height).bestAt k = m.bestAt k := by
    intro k; simp [Mgr.bestAt, h1]
  refine ⟨by simp [Mgr.tip, h1], hb, ?_, fun i => by rw [h2], ?_⟩
  · intro i
    rcases h4 i with e | ⟨e1, e2, _⟩
    · simp [Mgr.header, e]
    · simp [Mgr.header, e1, e2]
  · simp [history, hb, Mgr.tipHeight, h1]

/-- only best-chain blocks lose their body -/
theorem prune_only_best_chain (m : Mgr) (height : Nat) (i : Nat) (hi : i ∉ m.best) :
    (prune m height).recs i = m.recs i := by
  rcases (prune_only_bodies m height).2.2.2 i with e | ⟨_, _, k, _, _, e3⟩
  · exact e
  · exact absurd (bestAt_mem e3) hi

/-- a block that was stored with a body keeps being served as long as it is not a best-chain block
below the height -/
theorem prune_keeps_other_bodies (m : Mgr) (height : Nat) (i : Nat)
    (h : ∀ k, k < height → m.bestAt k ≠ some i) :
    (prune m height).block i = m.block i := by
  rcases (prune_only_bodies m height).2.2.2 i with e | ⟨_, _, k, hk, _, e3⟩
  · simp [Mgr.block, e]
  · exact absurd e3 (h k hk)

/-- **on a node that has not pruned yet, `PruneBlocks(height)` removes exactly the bodies of the
best-chain blocks below `min height (tip+1)`** — in every state reachable by block submissions,
for every height (also beyond the tip): the block at best height `k` has no body afterwards iff
`k < height`. -/
theorem prune_exact {U} (hU : WFU U) (hist : List (List Nat)) (height k : Nat)
    (hk : k ≤ (C01.run U Mgr.init hist).tipHeight) :
    ∃ i, (C01.run U Mgr.init hist).bestAt k = some i ∧
      (((prune (C01.run U Mgr.init hist) height).block i = none) ↔ k < height) := by
  have hinv := C01.inv_reachable hU hist
  generalize C01.run U Mgr.init hist = m at *
  have hlen : m.best.length ≠ 0 := by have := hinv.chain.ne_nil; simpa using this
  obtain ⟨i, hi⟩ : ∃ i, m.bestAt k = some i := ⟨_, bestAt_of_lt (by simp only [Mgr.tipHeight] at hk; omega)⟩
  have hi' : (prune m height).bestAt k = some i := by rw [(prune_keeps_queries m height).2.1, hi]
  have hlt := bestAt_lt hi
  refine ⟨i, hi, ?_⟩
  rw [((prune_p hinv.toPInv height).bestAt_block hi').1]
  omega

/-- **resubmitting a pruned block is a no-op**: the per-block loop of `AddBlocks` skips a block
whose header is stored without a body (it does not store it again without its supplement) -/
theorem resubmit_pruned_skipped (U : Nat → Blk) (m : Mgr) (b cs : Nat) (rest : List Nat)
    (hp : m.recs b = some ⟨false, false⟩) :
    addBlocks.go U (b :: rest) m cs = addBlocks.go U rest m b :=
  addLoop_known (.inr ⟨by simp [Mgr.header, hp], by simp [Mgr.block, hp]⟩)

/-- a batch consisting only of pruned blocks changes nothing and does not move the tip when the
last of them is not sufficiently heavier -/
theorem resubmit_pruned_batch_noop (U : Nat → Blk) (m : Mgr) (batch : List Nat) (cs : Nat)
    (hp : ∀ b ∈ batch, m.recs b = some ⟨false, false⟩) :
    (addBlocks.go U batch m cs).1 = m ∧ (addBlocks.go U batch m cs).2.1 = none := by
  induction batch generalizing cs with
  | nil => simp [addBlocks.go]
  | cons b bs ih =>
    rw [resubmit_pruned_skipped U m b cs bs (hp b (by simp))]
    exact ih b (fun x hx => hp x (List.mem_cons_of_mem _ hx))

/-- an operation of a node that prunes: a block submission or a prune -/
inductive NodeOp where
  | add (batch : List Nat)
  | prune (height : Nat)

def stepOp (U : Nat → Blk) (m : Mgr) : NodeOp → Mgr
  | .add batch => (addBlocks U m batch).1
  | .prune h => prune m h

def runOps (U : Nat → Blk) : Mgr → List NodeOp → Mgr
  | m, [] => m
  | m, op :: ops => runOps U (stepOp U m op) ops

/-! ### the pruned-node invariant `PInv` and the rollback of failed reorgs -/

/-- the pruning frontier after a run: `PruneBlocks(h)` lifts it to `max p (min h (tip+1))`, block
submissions leave it where it is -/
def frontierOps (U : Nat → Blk) : Mgr → Nat → List NodeOp → Nat
  | _, p, [] => p
  | m, p, .add batch :: ops => frontierOps U (addBlocks U m batch).1 p ops
  | m, p, .prune h :: ops => frontierOps U (prune m h) (max p (min h m.best.length)) ops

/-- the frontier of a node started from genesis -/
def frontier (U : Nat → Blk) (ops : List NodeOp) : Nat := frontierOps U Mgr.init 0 ops

/-- **the pruned-node invariant holds after any interleaving of submissions and prunes**, with the
frontier computed by `frontierOps`: the best-chain block at height `k` is header-only iff `k` is
below the frontier and fully stored (body + supplement) otherwise, every other record has a
body, a stored supplement means a validated body, the frontier is at most `tip height + 1` -/
theorem pinv_reachable {U} (hU : WFU U) (ops : List NodeOp) :
    PInv U (runOps U Mgr.init ops) (frontier U ops) := by
  suffices h : ∀ m p, PInv U m p → PInv U (runOps U m ops) (frontierOps U m p ops) from
    h _ _ (inv_init hU).toPInv
  induction ops with
  | nil => intro m p h; exact h
  | cons op ops ih =>
    intro m p h
    cases op with
    | add batch => exact ih _ _ (addBlocks_p hU h batch).1
    | prune height => exact ih _ _ (prune_p h height)

/-- the pruning-tolerant invariant holds after any interleaving of submissions and prunes -/
theorem winv_reachable {U} (hU : WFU U) (ops : List NodeOp) : WInv U (runOps U Mgr.init ops) :=
  (pinv_reachable hU ops).toWInv

/-- and the best chain stays parent-linked from genesis with every block either fully stored or
pruned to its header (never a body without its supplement) -/
theorem best_chain_wellformed_with_pruning {U} (hU : WFU U) (ops : List NodeOp) :
    Chain U (runOps U Mgr.init ops).best ∧
    ∀ i ∈ (runOps U Mgr.init ops).best,
      (runOps U Mgr.init ops).recs i = some ⟨true, true⟩ ∨ (runOps U Mgr.init ops).recs i = some ⟨false, false⟩ :=
  ⟨(winv_reachable hU ops).chain, (winv_reachable hU ops).bestrec⟩

/-- an unpruned node satisfies the invariant with frontier 0 -/
theorem pinv_of_unpruned {U} (hU : WFU U) (hist : List (List Nat)) :
    PInv U (C01.run U Mgr.init hist) 0 := (C01.inv_reachable hU hist).toPInv

/-- **exactly the best-chain blocks below the frontier have lost their body**, in every reachable
state of a pruning node; and the frontier never passes the tip -/
theorem frontier_exact {U} (hU : WFU U) (ops : List NodeOp) (k i : Nat)
    (hk : (runOps U Mgr.init ops).bestAt k = some i) :
    (((runOps U Mgr.init ops).block i = none) ↔ k < frontier U ops) ∧
    (((runOps U Mgr.init ops).block i = some true) ↔ frontier U ops ≤ k) ∧
    frontier U ops ≤ (runOps U Mgr.init ops).tipHeight + 1 := by
  have h := pinv_reachable hU ops
  have hf := h.frontier
  exact ⟨(h.bestAt_block hk).1, (h.bestAt_block hk).2, by simp only [Mgr.tipHeight]; omega⟩

/-- **`MinReorgIndex` reports the frontier**: it is the best-chain block at height
`min tipHeight frontier` -/
theorem minReorgIndex_is_frontier {U} (hU : WFU U) (ops : List NodeOp) :
    (runOps U Mgr.init ops).bestAt (min (runOps U Mgr.init ops).tipHeight (frontier U ops)) =
      some (minReorgIndex (runOps U Mgr.init ops)) ∧
    (U (minReorgIndex (runOps U Mgr.init ops))).height =
      min (runOps U Mgr.init ops).tipHeight (frontier U ops) :=
  minReorgIndex_p (pinv_reachable hU ops)

/-- **`reorgPath` meets at the first common ancestor** (restated from the lemma file so that it is
audited with the property): `na = da + n`, `nb = db + n`, one of `da`, `db` is 0, both pointers are
at the same height after phases 1/2, and all `n` pairs visited in phase 3 before the meeting
differ; hence no common ancestor is reachable with fewer steps.  Holds on pruned nodes too
(`reorgPath` reads headers only). -/
theorem reorgPath_minimal {U} (hU : WFU U) (ops : List NodeOp) {a b : Nat}
    (ha : (runOps U Mgr.init ops).states a = true) (hb : (runOps U Mgr.init ops).states b = true) :
    ∃ na nb, na ≤ (U a).height ∧ nb ≤ (U b).height ∧
      reorgPath U (runOps U Mgr.init ops) a b none =
        .ok ((List.range na).map (fun k => anc U k a), ((List.range nb).map (fun k => anc U k b)).reverse) ∧
      anc U na a = anc U nb b ∧
      (∃ da db n, na = da + n ∧ nb = db + n ∧ (da = 0 ∨ db = 0) ∧
        (U a).height - da = (U b).height - db ∧ ∀ k, k < n → anc U (da + k) a ≠ anc U (db + k) b) ∧
      ∀ i k, i ≤ (U a).height → k ≤ (U b).height → anc U i a = anc U k b → na ≤ i ∧ nb ≤ k := by
  obtain ⟨na, nb, h1, h2, h3, h4, h5, _, h7⟩ := reorgPath_min_least (pinv_reachable hU ops).core ha hb
  exact ⟨na, nb, h1, h2, h3, h4, h5, h7⟩

/-- the possible answers of `AddBlocks` on a pruning node -/
theorem addBlocks_results_with_pruning {U} (hU : WFU U) (ops : List NodeOp) (batch : List Nat) :
    (addBlocks U (runOps U Mgr.init ops) batch).2 = none ∨
    (addBlocks U (runOps U Mgr.init ops) batch).2 = some .missingParent ∨
    (addBlocks U (runOps U Mgr.init ops) batch).2 = some .future ∨
    (addBlocks U (runOps U Mgr.init ops) batch).2 = some .invalidHeader ∨
    (addBlocks U (runOps U Mgr.init ops) batch).2 = some .reorgFailed :=
  AddOutcome.result (addBlocks_p hU (pinv_reachable hU ops) batch).2.2

/-- **with pruning a failed reorg is still always rolled back**: after any interleaving of block
submissions and prunes, `AddBlocks` never answers "failed to revert failed reorg".  (A failed
attempt — a pruned body among the blocks to revert, an invalid block among those to apply —
leaves the manager on a tip that shares with the old best chain everything below some block of
it; the rollback's `reorgPath` is minimal, so the rollback reverts only freshly applied blocks and
re-applies only blocks the attempt had reverted, all still fully stored.) -/
theorem rollback_never_fails_with_pruning {U} (hU : WFU U) (ops : List NodeOp) (batch : List Nat) :
    (addBlocks U (runOps U Mgr.init ops) batch).2 ≠ some .rollbackFailed := by
  rcases addBlocks_results_with_pruning hU ops batch with h | h | h | h | h <;> simp [h]

/-- **never a panic**: after any interleaving of block submissions (valid, invalid, forks above,
at or below the pruned height, resubmission of pruned blocks) and prunes at any heights, the next
`AddBlocks` returns normally — with a result or an error, never the nil-supplement dereference
or the non-attaching-block panic -/
theorem never_panics_with_pruning {U} (hU : WFU U) (ops : List NodeOp) (batch : List Nat) :
    (addBlocks U (runOps U Mgr.init ops) batch).2 ≠ some .panic := by
  rcases addBlocks_results_with_pruning hU ops batch with h | h | h | h | h <;> simp [h]

/-- **every error leaves the chain exactly as it was**, also on a pruning node: same best chain
(hence tip and every best-chain query), no notification -/
theorem error_rolls_back_with_pruning {U} (hU : WFU U) (ops : List NodeOp) (batch : List Nat)
    (he : (addBlocks U (runOps U Mgr.init ops) batch).2 ≠ none) :
    (addBlocks U (runOps U Mgr.init ops) batch).1.best = (runOps U Mgr.init ops).best ∧
    (addBlocks U (runOps U Mgr.init ops) batch).1.notified = (runOps U Mgr.init ops).notified :=
  AddOutcome.error (addBlocks_p hU (pinv_reachable hU ops) batch).2.2 he

/-- **the tip moves only to a sufficiently heavier chain**, with exactly one notification -/
theorem tip_moves_only_if_heavier_with_pruning {U} (hU : WFU U) (ops : List NodeOp) (batch : List Nat) :
    let m := runOps U Mgr.init ops
    let m' := (addBlocks U m batch).1
    (m'.tip ≠ m.tip → heavier U m'.tip m.tip = true ∧ m'.notified = m.notified + 1) ∧
    (m'.tip = m.tip → m'.notified = m.notified) := by
  exact AddOutcome.tip (addBlocks_p hU (pinv_reachable hU ops) batch).2.2

/-- **every best-chain block at or above the frontier is stored completely and valid** (header,
body, not from the future); best chain parent-linked from genesis -/
theorem best_chain_valid_above_frontier {U} (hU : WFU U) (ops : List NodeOp) :
    Chain U (runOps U Mgr.init ops).best ∧
    ∀ i ∈ (runOps U Mgr.init ops).best, frontier U ops ≤ (U i).height →
      (runOps U Mgr.init ops).recs i = some ⟨true, true⟩ ∧
      (i ≠ 0 → (U i).hdrOk = true ∧ (U i).bodyOk = true ∧ (U i).future = false) := by
  have h := pinv_reachable hU ops
  refine ⟨h.chain, fun i hi hle => ?_⟩
  have hs := h.stored i hi hle
  refine ⟨hs, fun hne => ?_⟩
  have hv := h.validHdr i hne (h.recstate i _ hs)
  exact ⟨hv.1, h.valid i hne hs, hv.2⟩

/-- **a reorg that needs a pruned body fails with an error and changes nothing**: when the fork
point of the path towards the submitted chain lies more than one block below the frontier, the
reorg step of `AddBlocks` answers `reorgFailed` and best chain and notifications stay -/
theorem deep_reorg_fails_cleanly {U} (hU : WFU U) (ops : List NodeOp) {cs na nb : Nat}
    (hcs : (runOps U Mgr.init ops).states cs = true)
    (hh : heavier U cs (runOps U Mgr.init ops).tip = true)
    (hna : na ≤ (U (runOps U Mgr.init ops).tip).height)
    (hpath : reorgPath U (runOps U Mgr.init ops) (runOps U Mgr.init ops).tip cs none =
      .ok ((List.range na).map (fun k => anc U k (runOps U Mgr.init ops).tip),
        ((List.range nb).map (fun k => anc U k cs)).reverse))
    (hdeep : (U (anc U na (runOps U Mgr.init ops).tip)).height + 1 < frontier U ops) :
    (maybeReorg U (runOps U Mgr.init ops) cs).2 = some .reorgFailed ∧
    (maybeReorg U (runOps U Mgr.init ops) cs).1.best = (runOps U Mgr.init ops).best ∧
    (maybeReorg U (runOps U Mgr.init ops) cs).1.notified = (runOps U Mgr.init ops).notified :=
  maybeReorg_deep (pinv_reachable hU ops) hcs hh hna hpath hdeep

/-! ### simulation: a pruned node behaves like the unpruned node that saw the same submissions -/

/-- pruning an unpruned node any number of times gives a pruned copy of it -/
def pruneAll : Mgr → List Nat → Mgr
  | m, [] => m
  | m, h :: hs => pruneAll (prune m h) hs

def frontierAll : Mgr → Nat → List Nat → Nat
  | _, p, [] => p
  | m, p, h :: hs => frontierAll (prune m h) (max p (min h m.best.length)) hs

/-- **`Sim` is reachable**: after any history of submissions, any sequence of prunes yields a
pruned copy of the node (same states, best chain, notifications; records equal except that
best-chain blocks below the frontier are header-only) -/
theorem sim_reachable {U} (hU : WFU U) (hist : List (List Nat)) (heights : List Nat) :
    Sim U (pruneAll (C01.run U Mgr.init hist) heights) (C01.run U Mgr.init hist)
      (frontierAll (C01.run U Mgr.init hist) 0 heights) := by
  have h0 := Sim.refl (C01.inv_reachable hU hist)
  generalize C01.run U Mgr.init hist = mu at h0 ⊢
  suffices h : ∀ mp p, Sim U mp mu p → Sim U (pruneAll mp heights) mu (frontierAll mp p heights) from h _ _ h0
  induction heights with
  | nil => intro mp p h; exact h
  | cons x xs ih => intro mp p h; exact ih _ _ (sim_prune h x)

/-- what `Sim` says about records: equal except on best-chain blocks below the frontier, which are
header-only on the pruned node and complete on the unpruned one -/
theorem sim_records {U mp mu p} (hs : Sim U mp mu p) (i : Nat) :
    (¬ (i ∈ mp.best ∧ (U i).height < p) → mp.recs i = mu.recs i) ∧
    (i ∈ mp.best → (U i).height < p →
      mp.recs i = some ⟨false, false⟩ ∧ mu.recs i = some ⟨true, true⟩) ∧
    mp.states i = mu.states i ∧ mp.best = mu.best ∧ mp.notified = mu.notified :=
  ⟨hs.recs_eq, hs.recs_pruned, hs.states i, hs.best, hs.notified⟩

/-- **a pruned node simulates the unpruned node**: for every batch, `AddBlocks` on the pruned copy
either returns the same result as on the unpruned node and the two stay related (same best
chain, states, notifications; records equal up to pruned bodies), or — only when the reorg the
unpruned node performs forks off at a height below `frontier - 1`, i.e. strictly below the
height of the reported `MinReorgIndex` — answers `reorgFailed` and keeps its best chain and
notification count. -/
theorem pruned_simulates_unpruned {U} (hU : WFU U) {mp mu : Mgr} {p : Nat} (hs : Sim U mp mu p)
    (batch : List Nat) :
    ((addBlocks U mp batch).2 = (addBlocks U mu batch).2 ∧
      Sim U (addBlocks U mp batch).1 (addBlocks U mu batch).1 p) ∨
    ((addBlocks U mp batch).2 = some .reorgFailed ∧ (addBlocks U mp batch).1.best = mp.best ∧
      (addBlocks U mp batch).1.notified = mp.notified ∧
      ∃ cs na nb, heavier U cs mu.tip = true ∧
        reorgPath U (addBlocks.go U batch mu mu.tip).1 mu.tip cs none =
          .ok ((List.range na).map (fun k => anc U k mu.tip), ((List.range nb).map (fun k => anc U k cs)).reverse) ∧
        anc U na mu.tip = anc U nb cs ∧ (U (anc U na mu.tip)).height + 1 < p ∧
        (U (anc U na mu.tip)).height < (U (minReorgIndex mp)).height) := by
  rcases addBlocks_sim hU hs batch with h | ⟨k1, k2, k3, cs, na, nb, k4, k5, k6, k7⟩
  · exact Or.inl h
  · right
    refine ⟨k1, k2, k3, cs, na, nb, k4, k5, k6, k7, ?_⟩
    have hm := (minReorgIndex_p hs.pinv).2
    have hf := hs.pinv.frontier
    rw [hm]
    simp only [Mgr.tipHeight]
    omega

/-- in particular: **a reorg whose fork point is at or above `MinReorgIndex` gives the same result
and the same chain as on the unpruned node** -/
theorem reorg_above_min_index_same {U} (hU : WFU U) {mp mu : Mgr} {p : Nat} (hs : Sim U mp mu p)
    (batch : List Nat)
    (habove : ∀ cs na nb, heavier U cs mu.tip = true →
      reorgPath U (addBlocks.go U batch mu mu.tip).1 mu.tip cs none =
        .ok ((List.range na).map (fun k => anc U k mu.tip), ((List.range nb).map (fun k => anc U k cs)).reverse) →
      (U (minReorgIndex mp)).height ≤ (U (anc U na mu.tip)).height) :
    (addBlocks U mp batch).2 = (addBlocks U mu batch).2 ∧
    (addBlocks U mp batch).1.best = (addBlocks U mu batch).1.best ∧
    (addBlocks U mp batch).1.notified = (addBlocks U mu batch).1.notified ∧
    Sim U (addBlocks U mp batch).1 (addBlocks U mu batch).1 p := by
  rcases pruned_simulates_unpruned hU hs batch with ⟨h1, h2⟩ | ⟨_, _, _, cs, na, nb, k4, k5, _, _, k8⟩
  · exact ⟨h1, h2.best, h2.notified, h2⟩
  · have := habove cs na nb k4 k5
    omega

/-- the unpruned twin of a pruning node: same submissions, prunes ignored -/
def runTwin (U : Nat → Blk) : Mgr → List NodeOp → Mgr
  | m, [] => m
  | m, .add batch :: ops => runTwin U (addBlocks U m batch).1 ops
  | m, .prune _ :: ops => runTwin U m ops

/-- the answers of the submissions of a run -/
def resOps (U : Nat → Blk) : Mgr → List NodeOp → List (Option Err)
  | _, [] => []
  | m, .add batch :: ops => (addBlocks U m batch).2 :: resOps U (addBlocks U m batch).1 ops
  | m, .prune h :: ops => resOps U (prune m h) ops

def resTwin (U : Nat → Blk) : Mgr → List NodeOp → List (Option Err)
  | _, [] => []
  | m, .add batch :: ops => (addBlocks U m batch).2 :: resTwin U (addBlocks U m batch).1 ops
  | m, .prune _ :: ops => resTwin U m ops

/-- every reorg the unpruned twin performs during the run forks off at or above the height of the
`MinReorgIndex` the pruning node reports at that moment -/
def ForksAbove (U : Nat → Blk) : Mgr → Mgr → List NodeOp → Prop
  | _, _, [] => True
  | mp, mu, .add batch :: ops =>
    (∀ cs na nb, heavier U cs mu.tip = true →
      reorgPath U (addBlocks.go U batch mu mu.tip).1 mu.tip cs none =
        .ok ((List.range na).map (fun k => anc U k mu.tip), ((List.range nb).map (fun k => anc U k cs)).reverse) →
      (U (minReorgIndex mp)).height ≤ (U (anc U na mu.tip)).height) ∧
    ForksAbove U (addBlocks U mp batch).1 (addBlocks U mu batch).1 ops
  | mp, mu, .prune h :: ops => ForksAbove U (prune mp h) mu ops

/-- **whole runs**: under any interleaving of submissions and prunes in which every reorg forks
at or above the reported `MinReorgIndex`, the pruning node gives the same answers as its unpruned
twin and ends as a pruned copy of it (same best chain, states, notifications; records equal up to
the pruned bodies) -/
theorem pruned_run_simulates_unpruned {U} (hU : WFU U) (ops : List NodeOp)
    (habove : ForksAbove U Mgr.init Mgr.init ops) :
    resOps U Mgr.init ops = resTwin U Mgr.init ops ∧
    Sim U (runOps U Mgr.init ops) (runTwin U Mgr.init ops) (frontier U ops) := by
  suffices h : ∀ mp mu p, Sim U mp mu p → ForksAbove U mp mu ops →
      resOps U mp ops = resTwin U mu ops ∧ Sim U (runOps U mp ops) (runTwin U mu ops) (frontierOps U mp p ops) from
    h _ _ _ (Sim.refl (inv_init hU)) habove
  clear habove
  induction ops with
  | nil => intro mp mu p hs _; exact ⟨rfl, hs⟩
  | cons op ops ih =>
    intro mp mu p hs hab
    cases op with
    | add batch =>
      obtain ⟨h1, h2⟩ := hab
      obtain ⟨e1, _, _, e4⟩ := reorg_above_min_index_same hU hs batch h1
      obtain ⟨i1, i2⟩ := ih _ _ p e4 h2
      exact ⟨by simp only [resOps, resTwin]; rw [e1, i1], i2⟩
    | prune height => exact ih _ _ _ (sim_prune hs height) hab

theorem Ure_wf : WFU C04.Ure := by
  refine ⟨rfl, ?_⟩
  intro b hb
  match b with
  | 1 | 2 | 3 | 4 => exact ⟨by decide, by decide⟩
  | 0 => simp [C04.Ure] at hb
  | n + 5 => simp [C04.Ure] at hb

/-! ### non-vacuity -/

-- a fork point at the pruned height still works
example : (runOps C04.Ure Mgr.init [.add [1, 2], .prune 2, .add [1], .add [3, 4]]).best = [4, 3, 1, 0] := by decide +kernel
-- prune below the fork, resubmit the pruned blocks, then reorg below them: an error, not a panic
example : (addBlocks C04.Ure (runOps C04.Ure Mgr.init [.add [1, 2], .prune 3, .add [1]]) [3, 4]).2 = some .reorgFailed := by decide +kernel
example : (runOps C04.Ure Mgr.init [.add [1, 2], .prune 3, .add [1], .add [3, 4]]).best = [2, 1, 0] := by decide +kernel

example : (prune (C01.run C01.Uex Mgr.init [[1, 2], [6]]) 2).block 1 = none := by decide +kernel
example : (prune (C01.run C01.Uex Mgr.init [[1, 2], [6]]) 2).block 2 = some true := by decide +kernel
example : (prune (C01.run C01.Uex Mgr.init [[1, 2], [6]]) 100).block 6 = none := by decide +kernel
example : minReorgIndex (prune (C01.run C01.Uex Mgr.init [[1, 2], [6]]) 2) = 2 := by decide +kernel

-- the frontier after a run, and `PInv` with a non-trivial frontier (from `pinv_reachable`)
example : frontier C04.Ure [.add [1, 2], .prune 2, .add [1]] = 2 := by decide +kernel
example : frontier C04.Ure [.add [1, 2], .prune 100, .add [1]] = 3 := by decide +kernel
example : PInv C04.Ure (runOps C04.Ure Mgr.init [.add [1, 2], .prune 2, .add [1]]) 2 :=
  pinv_reachable Ure_wf _
-- a failed reorg on a pruned node whose apply phase hits an invalid block (C01.Uex: 4 is invalid):
-- rolled back, not `rollbackFailed`
example : (addBlocks C01.Uex (runOps C01.Uex Mgr.init [.add [1, 2], .prune 2]) [3, 4, 5]).2 = some .reorgFailed := by decide +kernel
example : (addBlocks C01.Uex (runOps C01.Uex Mgr.init [.add [1, 2], .prune 2]) [3, 4, 5]).1.best = [2, 1, 0] := by decide +kernel
-- a failed reorg whose revert phase hits a pruned body: rolled back as well
example : (addBlocks C04.Ure (runOps C04.Ure Mgr.init [.add [1, 2], .prune 3]) [3, 4]).2 = some .reorgFailed := by decide +kernel
example : (addBlocks C04.Ure (runOps C04.Ure Mgr.init [.add [1, 2], .prune 3]) [3, 4]).1.best = [2, 1, 0] := by decide +kernel
-- `Sim` with a non-trivial frontier (from `sim_reachable`), the agreeing case and the diverging case
example : frontierAll (C01.run C04.Ure Mgr.init [[1, 2]]) 0 [2] = 2 := by decide +kernel
example : Sim C04.Ure (pruneAll (C01.run C04.Ure Mgr.init [[1, 2]]) [2]) (C01.run C04.Ure Mgr.init [[1, 2]]) 2 :=
  sim_reachable Ure_wf [[1, 2]] [2]
example : (addBlocks C04.Ure (pruneAll (C01.run C04.Ure Mgr.init [[1, 2]]) [2]) [3, 4]).2 = none ∧
    (addBlocks C04.Ure (C01.run C04.Ure Mgr.init [[1, 2]]) [3, 4]).2 = none ∧
    (addBlocks C04.Ure (pruneAll (C01.run C04.Ure Mgr.init [[1, 2]]) [2]) [3, 4]).1.best = [4, 3, 1, 0] := by decide +kernel
example : (addBlocks C04.Ure (pruneAll (C01.run C04.Ure Mgr.init [[1, 2]]) [3]) [3, 4]).2 = some .reorgFailed ∧
    (addBlocks C04.Ure (C01.run C04.Ure Mgr.init [[1, 2]]) [3, 4]).2 = none := by decide +kernel
-- a run with a prune in the middle and a later reorg forking at `MinReorgIndex` satisfies `ForksAbove`
example : ForksAbove C04.Ure Mgr.init Mgr.init [.add [1, 2], .prune 1, .add [3, 4]] := by
  have htip : (addBlocks C04.Ure Mgr.init [1, 2]).1.tip = 2 := by decide +kernel
  have hcs : ∀ cs, heavier C04.Ure cs 2 = true → cs = 4 := by
    intro cs hh
    by_cases h5 : cs < 5
    · exact (by decide +kernel : ∀ cs, cs < 5 → heavier C04.Ure cs 2 = true → cs = 4) cs h5 hh
    · obtain ⟨n, rfl⟩ := Nat.exists_eq_add_of_le' (Nat.le_of_not_lt h5)
      simp [heavier, C04.Ure] at hh
  refine ⟨fun cs na nb _ _ => ?_, fun cs na nb hh hp => ?_, trivial⟩
  · have : (C04.Ure (minReorgIndex Mgr.init)).height = 0 := by decide +kernel
    omega
  · obtain rfl := hcs cs (htip ▸ hh)
    have e : reorgPath C04.Ure (addBlocks.go C04.Ure [3, 4] (addBlocks C04.Ure Mgr.init [1, 2]).1
        (addBlocks C04.Ure Mgr.init [1, 2]).1.tip).1 (addBlocks C04.Ure Mgr.init [1, 2]).1.tip 4 none =
        .ok ([2], [3, 4]) := by rfl
    rw [e] at hp
    have hna : na = 1 := by
      have := congrArg (fun x => x.1.length) (Except.ok.inj hp)
      simpa using this.symm
    subst hna
    decide +kernel
example : resOps C04.Ure Mgr.init [.add [1, 2], .prune 1, .add [3, 4]] = [none, none] := by decide +kernel
example : (runOps C04.Ure Mgr.init [.add [1, 2], .prune 1, .add [3, 4]]).best = [4, 3, 1, 0] := by decide +kernel
-- the diverging case is exactly the one below `MinReorgIndex` (block 2 at height 2; fork point 1 at height 1)
example : minReorgIndex (pruneAll (C01.run C04.Ure Mgr.init [[1, 2]]) [3]) = 2 := by decide +kernel
example : reorgPath C04.Ure (addBlocks.go C04.Ure [3, 4] (C01.run C04.Ure Mgr.init [[1, 2]]) 2).1 2 4 none =
    .ok ([2], [3, 4]) := by rfl

/-! ### subscribers of a pruned node (`PruneBlocks`' contract: prune only below what every
subscriber has processed) -/

/-- **a subscriber that is not behind the pruning is still served**: after any interleaving of
`AddBlocks` and `PruneBlocks`, for a subscriber standing on the best chain at or above the last
pruned height (`frontier - 1`) and any `max`, `UpdatesSince` does not fail, returns only applies —
each of the next best-chain block (a contiguous walk from the subscriber's index) —, at most `max`
of them, and stops at the tip unless `max` stops it first; the index it ends on is again such a
subscriber.  Resubmitting old (pruned) blocks in between changes nothing of this: it is part of
the interleaving. -/
theorem subscriber_served_after_pruning {U} (hU : WFU U) (ops : List NodeOp) (i max : Nat)
    (hs : SubP U (runOps U Mgr.init ops) (frontier U ops) i) :
    ∃ us i', updatesSince U (runOps U Mgr.init ops)
        ((U (runOps U Mgr.init ops).tip).height - (U i).height) (some i) max [] = .ok us ∧
      walk U (some i) us = some (some i') ∧ SubP U (runOps U Mgr.init ops) (frontier U ops) i' ∧
      (∀ u ∈ us, ∃ b, u = .apply b) ∧ (i' = (runOps U Mgr.init ops).tip ∨ us.length ≥ max) ∧
      us.length ≤ max := by
  obtain ⟨us, i', h1, h2, h3, h4, h5, h6⟩ :=
    updatesSince_pruned (pinv_reachable hU ops) max _ i [] hs (Nat.le_refl _)
  exact ⟨us, i', by simpa using h1, h2, h3, h4, by simpa using h5, by simpa using h6⟩

/-- the tip itself is always such a subscriber (a subscriber that was caught up when the operator
pruned — even with `PruneBlocks(tip height + 1)` — can follow everything that comes later) -/
theorem tip_is_served_after_pruning {U} (hU : WFU U) (ops : List NodeOp) :
    SubP U (runOps U Mgr.init ops) (frontier U ops) (runOps U Mgr.init ops).tip := by
  have h := pinv_reachable hU ops
  have hw := h.toWInv
  refine ⟨hw.bestAt_of_mem hw.tip_mem, ?_⟩
  have := h.frontier
  have := hw.length
  omega

/-! ### the known finding `prune-skips-bodies-below-a-gap`, as a theorem about the model

The theorems above speak of histories of `AddBlocks` and `PruneBlocks`. `AddValidatedV2Blocks`
stores what it is given, pruned blocks included (`AddBlocks` skips them); with it in the history the
clause "after `PruneBlocks(h)` the best-chain bodies below `h` are gone" is FALSE of the model — and
of the code, on which the harness replays this history (the `island` step of `harness/c19`). -/

def Uv2 : Nat → Blk
  | 1 => ⟨0, 1, 200, 100, true, true, false, true⟩
  | 2 => ⟨1, 2, 300, 100, true, true, false, true⟩
  | 3 => ⟨2, 3, 400, 100, true, true, false, true⟩
  | 4 => ⟨3, 4, 500, 100, true, true, false, true⟩
  | _ => ⟨0, 0, 100, 100, false, false, false, false⟩

/-- chain 1-2-3-4; prune below 3; block 1 is handed over again pre-validated (its body returns
under the pruned block 2); `PruneBlocks(4)` then stops at block 2 and never reaches block 1 -/
theorem prune_misses_island_witness :
    let m0 := (addBlocks Uv2 Mgr.init [1, 2, 3, 4]).1
    let m1 := prune m0 3
    let m2 := (addValidatedV2 Uv2 m1 [1] 1).1
    let m3 := prune m2 4
    m0.best = [4, 3, 2, 1, 0] ∧ (m1.block 1).isNone = true ∧ (m1.block 2).isNone = true ∧
    (m2.block 1).isSome = true ∧
    m3.bestAt 1 = some 1 ∧ (m3.block 1).isSome = true ∧ (m3.block 2).isNone = true ∧
    (m3.block 3).isNone = true ∧ m3.tipHeight = 4 ∧ minReorgIndex m3 = 4 := by decide

end Verif.C19
