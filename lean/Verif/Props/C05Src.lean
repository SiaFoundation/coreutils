/-
C05 (and the other pool properties C13, C14), source tie: the lock discipline of the pool's methods
of `chain.Manager`, over the table regenerated from chain/manager.go on every run
(`Extracted.managerLocks`, harness/srcfacts/chain.go).

"At every moment the transactions the pool reports ..." quantifies over every schedule of callers.
The model's pool operations are atomic steps; these theorems are what licenses that for the code:
every pool method is one critical section of an EXCLUSIVE lock (several of the "readers" revalidate
and rewrite the pool lazily, so a shared lock would let two of them write at once), except for the
one window in which the two submission methods call the listeners.
-/
import Verif.Lemmas.SkelTok
import Verif.Lemmas.LockTab
import Verif.Extracted.ChainSkel

namespace Verif.C05Src
open Verif.Skel Verif.Extracted Verif.LockTab

/-- the pool's methods of the manager -/
def poolMethods : List String :=
  ["AddPoolTransactions", "AddV2PoolTransactions", "PoolTransaction", "PoolTransactions", "V2PoolTransaction",
   "V2PoolTransactions", "RecommendedFee", "UnconfirmedParents", "TransactionsForPartialBlock",
   "UpdateV2TransactionSet", "V2TransactionSet", "OnPoolChange",
   "applyPoolUpdate", "revertPoolUpdate", "revalidatePool", "checkTxnSet", "computeMedianFee", "computeParentMap",
   "overwriteExpirations", "updateV2TransactionProofs"]

def poolLocks := managerLocks.filter (fun e => poolMethods.contains e.1)

/-- the manager's mutex is an exclusive lock -/
theorem src_manager_mutex_exclusive : managerMutexType = "sync.Mutex" := by decide +kernel

/-- every pool method of `chain.Manager` runs under `m.mu` from its first statement to its return, the two
submission methods opening it once for the listeners (the five statements that follow, together) -/
theorem src_pool_lock_discipline :
    opsClosed poolLocks = true ∧ exportedLockFirst poolLocks = true ∧ internalNeverLock poolLocks = true ∧
    ((poolLocks.filter (fun e => (lkOps e).contains "Unlock")).map (·.1) = ["AddPoolTransactions", "AddV2PoolTransactions"] ∧
      poolLocks.all (fun e => windowsClosed (lkOps e)) = true ∧
      poolLocks.all (fun e => (lkOps e).count "Unlock" ≤ 1) = true ∧
      poolLocks.all (fun e => !(lkExported e && lkTouches e) || (lkOps e).contains "Unlock" || e.1 == "OnPoolChange" ||
        lkOps e == ["Lock", "defer Unlock"]) = true) ∧
    (poolMethods.all (fun n => managerLocks.any (·.1 == n)) = true ∧ poolLocks.length = poolMethods.length ∧
      poolLocks.length + 18 = managerLocks.length) := by
  -- one evaluation, so that the table is filtered by method name (string comparisons) once
  decide +kernel

/-- no `RLock`/`TryLock` on the pool's paths -/
theorem src_pool_lock_ops_closed : opsClosed poolLocks = true := src_pool_lock_discipline.1

/-- every exported pool method takes the lock first, releases it by a deferred unlock, and reads
nothing of the manager before the lock is held -/
theorem src_pool_exported_methods_lock_first : exportedLockFirst poolLocks = true :=
  src_pool_lock_discipline.2.1

/-- `revalidatePool`, `applyPoolUpdate`, `revertPoolUpdate`, `checkTxnSet`, ... never operate on the
lock: they run inside their caller's critical section -/
theorem src_pool_internal_methods_never_lock : internalNeverLock poolLocks = true :=
  src_pool_lock_discipline.2.2.1

/-- only the two submission methods open the lock in the middle (to call the pool listeners), once,
closing it again at once; every other pool method holds it from first statement to return -/
theorem src_pool_unlock_windows :
    (poolLocks.filter (fun e => (lkOps e).contains "Unlock")).map (·.1) = ["AddPoolTransactions", "AddV2PoolTransactions"] ∧
    poolLocks.all (fun e => windowsClosed (lkOps e)) = true ∧
    poolLocks.all (fun e => (lkOps e).count "Unlock" ≤ 1) = true ∧
    poolLocks.all (fun e => !(lkExported e && lkTouches e) || (lkOps e).contains "Unlock" || e.1 == "OnPoolChange" ||
      lkOps e == ["Lock", "defer Unlock"]) = true := src_pool_lock_discipline.2.2.2.1

/-- non-vacuity: every method named above is in the extracted table, and with `C01Src.chainMethods`
the two lists cover the whole table -/
theorem src_pool_lock_table_covers :
    poolMethods.all (fun n => managerLocks.any (·.1 == n)) = true ∧ poolLocks.length = poolMethods.length ∧
    poolLocks.length + 18 = managerLocks.length := src_pool_lock_discipline.2.2.2.2

end Verif.C05Src
