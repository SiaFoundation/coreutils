/-
C13, source tie: the lock discipline of the methods C13 names, over the table regenerated from
chain/manager.go on every run (`Extracted.managerLocks`).  The model's `rebase`, `v2TransactionSet`
and `unconfirmedParents` are atomic steps; `V2TransactionSet` and `UnconfirmedParents` re-validate (and
rewrite) the pool before they read it, so they need the EXCLUSIVE lock for their whole body like the
submission methods.  Same theorems as `Props/C05Src.lean`, restated for these methods.
-/
import Verif.Lemmas.SkelTok
import Verif.Lemmas.LockTab
import Verif.Extracted.ChainSkel

namespace Verif.C13Src
open Verif.Skel Verif.Extracted Verif.LockTab

def rebaseMethods : List String :=
  ["UpdateV2TransactionSet", "V2TransactionSet", "UnconfirmedParents", "AddV2PoolTransactions",
   "updateV2TransactionProofs", "computeParentMap", "revalidatePool", "checkTxnSet", "overwriteExpirations"]

def rebaseLocks := managerLocks.filter (fun e => rebaseMethods.contains e.1)

theorem src_manager_mutex_exclusive : managerMutexType = "sync.Mutex" := by decide +kernel

/-- every method on the rebase path runs under `m.mu` from its first statement to its return,
`AddV2PoolTransactions` opening it once for the listeners (the five statements that follow, together) -/
theorem src_rebase_lock_discipline :
    opsClosed rebaseLocks = true ∧ exportedLockFirst rebaseLocks = true ∧ internalNeverLock rebaseLocks = true ∧
    ((rebaseLocks.filter (fun e => (lkOps e).contains "Unlock")).map (·.1) = ["AddV2PoolTransactions"] ∧
      rebaseLocks.all (fun e => windowsClosed (lkOps e)) = true) ∧
    (rebaseMethods.all (fun n => managerLocks.any (·.1 == n)) = true ∧ rebaseLocks.length = rebaseMethods.length) := by
  -- one evaluation, so that the table is filtered by method name (string comparisons) once
  decide +kernel

/-- no `RLock`/`TryLock` on these paths -/
theorem src_rebase_lock_ops_closed : opsClosed rebaseLocks = true := src_rebase_lock_discipline.1

/-- every exported one takes the lock first, releases it by a deferred unlock, and reads nothing of
the manager before the lock is held -/
theorem src_rebase_exported_methods_lock_first : exportedLockFirst rebaseLocks = true :=
  src_rebase_lock_discipline.2.1

/-- the helpers never operate on the lock: they run inside their caller's critical section -/
theorem src_rebase_internal_methods_never_lock : internalNeverLock rebaseLocks = true :=
  src_rebase_lock_discipline.2.2.1

/-- only `AddV2PoolTransactions` opens the lock in the middle (listener window), once -/
theorem src_rebase_unlock_windows :
    (rebaseLocks.filter (fun e => (lkOps e).contains "Unlock")).map (·.1) = ["AddV2PoolTransactions"] ∧
    rebaseLocks.all (fun e => windowsClosed (lkOps e)) = true := src_rebase_lock_discipline.2.2.2.1

/-- non-vacuity: every method named above is in the extracted table -/
theorem src_rebase_lock_table_covers :
    rebaseMethods.all (fun n => managerLocks.any (·.1 == n)) = true ∧ rebaseLocks.length = rebaseMethods.length :=
  src_rebase_lock_discipline.2.2.2.2

end Verif.C13Src
