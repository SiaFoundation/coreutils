/-
C07 — wallet funding never double-allocates, conserves value and yields valid spends.

Property theorems only.  The model is `Verif/Model/Funding.lean` (a transcription of
`/repo/wallet/wallet.go`), helper lemmas are in `Verif/Lemmas/Funding.lean`.  Every wallet
operation is one step of the model because every method involved locks `sw.mu` first and holds
it to its end (`ops_atomic`, over facts regenerated from the source on every run); "every
interleaving" is therefore "every list of operations", and the theorems quantify over all
lists, all states, all configurations and every sort function that permutes its input.

Environment hypotheses are explicit and are facts about consensus / hashing, not about the wallet:
`StoreWF` (the store lists an output once; a pooled transaction does not create an output the
store already holds), `PoolOrdered` (a pooled input never names an output of the same or a later
pooled transaction), `PoolOwn` (a pooled input naming a store output carries the wallet's address).
-/
import Verif.Lemmas.Funding
import Verif.Lemmas.WalletLock

namespace Verif.C07
open Verif.Funding

/-! ### atomicity (regenerated source tie) -/

/-- the methods the interleaving argument treats as one step each -/
def atomicOps : List String :=
  ["Balance", "SpendableOutputs", "FundTransaction", "FundV2Transaction", "Redistribute",
   "SplitUTXO", "ReleaseInputs", "SignV2Inputs"]

/-- each of them is one critical section of `sw.mu` (Lock at the top of the body, deferred Unlock,
no other Unlock, no goroutine, nothing touching the reservation map before the Lock) -/
theorem ops_atomic : ∀ m ∈ atomicOps, m ∈ Verif.WalletLock.lockedMethods := by decide +kernel

/-- nothing reaches the reservation map `sw.locked` (directly or through the unexported helpers
`isLocked`, `lockUTXOs`, `cleanLockedUTXOs`, `selectUTXOs`, …) outside such a critical section -/
theorem locked_only_under_mutex : Verif.WalletLock.discipline = true := by decide +kernel

/-- in particular none of them — `SplitUTXO` with its pool insertion and broadcast included —
gives the mutex up between its first selection and its reservation: the body contains no
`sw.mu.Unlock()` besides the deferred one and starts no goroutine -/
theorem critical_sections_unbroken :
    ∀ w ∈ Verif.Extracted.walletMethods, w.method = true → w.name ∈ atomicOps →
      w.lockFirst = true ∧ w.unlocks = 0 ∧ w.goStmts = 0 := by decide +kernel

/-- and no critical section calls a method that takes the mutex again -/
theorem no_reentrant_lock : Verif.WalletLock.noReentry = true := by decide +kernel

/-! ### what is selected -/

/-- **select_sound.** Every selected input is an unspent output of the wallet in the store,
mature, not reserved and not spent by a pooled transaction (v1 or v2) — or, only with
`useUnconfirmed`, an unreserved output paying the wallet that a pooled transaction of the
funded transaction's version creates and no pooled transaction spends. -/
theorem select_sound (S : Sorter) (s : State) (amount inputs : Nat) (uc v2 : Bool) (sel : List Utxo)
    (hord : PoolOrdered (s.poolV1 ++ s.poolV2))
    (h : s.selectUTXOs S amount inputs uc v2 = some sel) :
    ∀ u ∈ sel,
      (u ∈ s.utxos ∧ u.maturity ≤ s.height ∧ s.isLocked u.id = false ∧ u.id ∉ s.inPool) ∨
      (uc = true ∧ s.isLocked u.id = false ∧ u.id ∉ s.inPool ∧
        ∃ t ∈ s.poolV1 ++ s.poolV2, t.v2 = v2 ∧ ∃ o ∈ t.outs, o.own = true ∧ o.id = u.id ∧ o.value = u.value) := by
  intro u hu
  rcases select_mem h u hu with hc | ⟨huc, hc⟩
  · left
    have := (mem_candidates s v2 u).mp hc
    exact ⟨this.1, this.2.2.2, this.2.1, this.2.2.1⟩
  · right
    obtain ⟨o, ho, hown, hl, rfl⟩ := mem_unconfCandidates hc
    obtain ⟨t, ht, hv, hot⟩ := created_origin o ho
    refine ⟨huc, hl, ?_, t, ht, by simpa using hv, o, hot, hown, rfl, rfl⟩
    exact created_unspent hord o ho

/-- a transaction never receives the same input twice -/
theorem select_inputs_distinct (S : Sorter) (s : State) (amount inputs : Nat) (uc v2 : Bool) (sel : List Utxo)
    (hwf : StoreWF s) (h : s.selectUTXOs S amount inputs uc v2 = some sel) : (sel.map (·.id)).Nodup :=
  select_nodup h hwf

/-! ### no two outstanding requests share an input -/

def visited (S : Sorter) : State → List Op → List State
  | s, [] => [s]
  | s, o :: ops => s :: visited S (s.step S o) ops

/-- **outstanding_disjoint.** From any state satisfying the invariant (e.g. a fresh wallet), after
ANY sequence of Fund / FundV2 / Redistribute / SplitUTXO / ReleaseInputs calls, broadcasts,
external spends, blocks, clock ticks, restarts and arbitrary other changes of store and pool
(`Op.env`), the invariant holds: the inputs of every un-released request whose reservation
period has not ended are reserved, and such requests are pairwise disjoint. -/
theorem outstanding_disjoint (S : Sorter) (ops : List Op) (s : State) (h : Inv s)
    (hstore : ∀ st ∈ visited S s ops, (st.utxos.map (·.id)).Nodup) : Inv (s.run S ops) := by
  induction ops generalizing s with
  | nil => exact h
  | cons o ops ih =>
    unfold State.run
    simp only [List.foldl_cons]
    apply ih
    · exact inv_step S s h (hstore s (by simp [visited])) o
    · intro st hst; exact hstore st (by simp [visited, hst])

theorem fresh_wallet_inv (cfg : Cfg) : Inv (State.init cfg) := inv_init cfg

/-- the reading of the invariant the property states: two different un-released requests whose
reservations have not ended have no input in common -/
theorem no_shared_input (s : State) (h : Inv s) :
    s.out.Pairwise fun a b => s.now < a.expiry → s.now < b.expiry → ∀ u ∈ a.ins, ∀ v ∈ b.ins, u.id ≠ v.id :=
  h.disj

/-- and a new selection avoids every input of every such request -/
theorem select_avoids_outstanding (S : Sorter) (s : State) (h : Inv s) (amount inputs : Nat) (uc v2 : Bool)
    (sel : List Utxo) (hs : s.selectUTXOs S amount inputs uc v2 = some sel) :
    ∀ r ∈ s.out, s.now < r.expiry → ∀ u ∈ r.ins, ∀ v ∈ sel, u.id ≠ v.id := by
  intro r hr hlive u hu v hv heq
  have h1 := h.held r hr hlive u hu
  have h2 := select_unlocked hs v hv
  rw [← heq] at h2
  simp [State.isLocked] at h2
  omega

/-! ### conservation -/

/-- **fund_conserves.** A successful Fund call returns inputs worth exactly the amount plus the
change it wrote into the transaction; there is a change output iff the inputs exceed the amount. -/
theorem fund_conserves (S : Sorter) (s : State) (h : Nat) (v2 : Bool) (amount : Nat) (uc : Bool) (inputs : Nat)
    (pre : List (Nat × Bool)) (ins : List Utxo) (sum change : Nat)
    (hf : (s.fund S h v2 amount uc inputs pre).2 = .ok ins sum change) :
    sumV ins = amount + change ∧ sum = sumV ins := by
  rcases fund_spec S s h v2 amount uc inputs pre with ⟨h0, e⟩ | e | ⟨sel, hsel, e⟩
  · rw [e] at hf
    obtain ⟨rfl, rfl, rfl⟩ := FundOut.ok.inj hf
    exact ⟨by rw [h0]; rfl, rfl⟩
  · rw [e] at hf; cases hf
  · rw [e] at hf
    obtain ⟨rfl, rfl, rfl⟩ := FundOut.ok.inj hf
    have := select_ge hsel
    exact ⟨by omega, rfl⟩

/-- **redistribute_conserves.** Every transaction `Redistribute` returns: inputs = outputs + change + fee. -/
theorem redistribute_conserves (S : Sorter) (s : State) (h0 outputs amount fpb : Nat) (txns : List RTxn)
    (hr : (s.redistribute S h0 outputs amount fpb).2 = .ok txns) :
    ∀ t ∈ txns, sumV t.ins = amount * t.nout + t.change + t.fee := by
  rcases redistribute_spec S s h0 outputs amount fpb with e | e | ⟨txns', _, hcons, e⟩
  · rw [e] at hr; cases hr
  · rw [e] at hr; cases hr
  · rw [e] at hr
    cases hr
    exact hcons

/-- **split_conserves.** The split transaction spends one output into `nout` outputs and the fee. -/
theorem split_conserves (s : State) (h n m fee : Nat) (input : Utxo) (nout per last f : Nat)
    (hs : (s.split h n m fee).2 = .ok input nout per last f) :
    input.value = per * (nout - 1) + last + f ∧ m ≤ per ∧ per ≤ last := by
  rcases split_spec s h n m fee with e | e | ⟨k, q, hk, _, hq, hm, e⟩
  · rw [e] at hs; cases hs
  · rw [e] at hs; cases hs
  · rw [e] at hs
    obtain ⟨rfl, rfl, rfl, rfl, rfl⟩ := SplitOut.ok.inj hs
    have hle := Nat.div_mul_le_self ((s.splitPick m).2.value - fee * 2000) k
    rw [← hq] at hle
    have : q * k = q * (k - 1) + q := by rw [← Nat.mul_succ, Nat.succ_eq_add_one, Nat.sub_add_cancel hk]
    omega

/-! ### failure, release, expiry -/

/-- **fail_reserves_nothing.** A request that returns an error leaves the wallet exactly as it was. -/
theorem fail_reserves_nothing_fund (S : Sorter) (s : State) (h : Nat) (v2 : Bool) (amount : Nat) (uc : Bool)
    (inputs : Nat) (pre : List (Nat × Bool)) (hf : (s.fund S h v2 amount uc inputs pre).2 = .err) :
    (s.fund S h v2 amount uc inputs pre).1 = s := by
  rcases fund_spec S s h v2 amount uc inputs pre with ⟨_, e⟩ | e | ⟨_, _, e⟩
  · rw [e]
  · rw [e]
  · rw [e] at hf; cases hf

theorem fail_reserves_nothing_redistribute (S : Sorter) (s : State) (h0 outputs amount fpb : Nat)
    (hf : (s.redistribute S h0 outputs amount fpb).2 = .err) :
    (s.redistribute S h0 outputs amount fpb).1 = s := by
  rcases redistribute_spec S s h0 outputs amount fpb with e | e | ⟨_, _, _, e⟩
  · rw [e]
  · rw [e]
  · rw [e] at hf; cases hf

theorem fail_reserves_nothing_split (s : State) (h n m fee : Nat) (hf : (s.split h n m fee).2 = .err) :
    (s.split h n m fee).1 = s := by
  rcases split_spec s h n m fee with e | e | ⟨_, _, _, _, _, _, e⟩
  · rw [e]
  · rw [e]
  · rw [e] at hf; cases hf

/-- a `SplitUTXO` whose transaction the pool refuses leaves the wallet exactly as it was (nothing
reserved, nothing pooled, no set stored) -/
theorem split_pool_failure_reserves_nothing (s : State) (h n m fee : Nat) :
    (s.splitPoolFails h n m fee).1 = s := by
  unfold State.splitPoolFails
  rcases split_spec s h n m fee with e | e | ⟨_, _, _, _, _, _, e⟩
  · rw [e]
  · rw [e]
  · rw [e]

/-- **release_unlocks.** After `ReleaseInputs` none of the named inputs is reserved. -/
theorem release_unlocks (s : State) (ids : List Nat) : ∀ id ∈ ids, (s.release ids).isLocked id = false := by
  intro id hid
  simp [State.release, State.isLocked, cleanLocked, hid]

/-- **expiry_unlocks.** In every state a script can reach, once the reservation period has
passed nothing is reserved any more. -/
theorem expiry_unlocks (s : State) (h : Inv s) (d : Nat) (hd : s.cfg.reservation ≤ d) :
    ∀ id, (s.tick d).isLocked id = false := by
  intro id
  have := h.bounded id
  simp only [State.isLocked, State.tick]
  exact decide_eq_false (by omega)

/-- a restart forgets every reservation -/
theorem restart_unreserves (s : State) (f : Bool) : ∀ id, (s.restart f).isLocked id = false := by
  intro id
  unfold State.restart
  refine foldl_addSet_induction (fun st => st.isLocked id = false) (fun _ _ h => h) _ _ ?_
  cases f <;> exact decide_eq_false (Nat.not_lt_zero _)

/-- the state a restart starts re-loading from -/
def restartBase (s : State) (freshPool : Bool) : State :=
  if freshPool then { s with locked := fun _ => 0, out := [], poolV1 := [], poolV2 := [] }
  else { s with locked := fun _ => 0, out := [] }

/-- **restart_reloads.** A restart offers every stored broadcast set that is not older than the
rebroadcast period to the pool, in the store's order, whatever older sets are stored before,
between or after them (`reloadable` skips exactly the expired ones); and what a set put into the
pool stays there while the remaining sets are offered. -/
theorem restart_reloads (s : State) (f : Bool) (before after : List (List PTxn)) (set : List PTxn)
    (h : s.reloadable = before ++ set :: after) (p : PTxn)
    (hp : p ∈ ((before.foldl State.addSet (restartBase s f)).addSet set).poolV2) :
    p ∈ (s.restart f).poolV2 := by
  have : s.restart f = s.reloadable.foldl State.addSet (restartBase s f) := by
    unfold State.restart restartBase; cases f <;> rfl
  rw [this, h, List.foldl_append, List.foldl_cons]
  exact foldl_addSet_poolV2_mono after _ p hp

theorem reloadable_spec (s : State) (set : List PTxn) :
    set ∈ s.reloadable ↔ ∃ b ∈ s.bsets, b.expired = false ∧ b.txns = set := by
  simp [State.reloadable, and_assoc]

/-- in particular an unexpired set of one transaction that the pool accepts at its turn (alone on
the tip and on top of what was re-loaded before it) is in the pool after the restart -/
theorem restart_reloads_single (s : State) (f : Bool) (before after : List (List PTxn)) (p : PTxn)
    (h : s.reloadable = before ++ [p] :: after)
    (h1 : ({ before.foldl State.addSet (restartBase s f) with poolV1 := [], poolV2 := [] } : State).accepts true (p.ins.map (·.id)) = true)
    (h2 : (before.foldl State.addSet (restartBase s f)).accepts true (p.ins.map (·.id)) = true) :
    p ∈ (s.restart f).poolV2 :=
  restart_reloads s f before after [p] h p (addSet_single _ p h1 h2)

/-! ### the views agree -/

/-- **views_agree.** In every state (hence also right after a restart, whatever the re-loaded
broadcast sets put into the pool): `SpendableOutputs()` is exactly the list input selection
chooses from, `Balance().Spendable` is its sum, and a request without unconfirmed outputs
succeeds exactly when the amount does not exceed that balance. -/
theorem views_agree (S : Sorter) (s : State) (hown : PoolOwn s) (v2 : Bool) :
    s.spendable = s.candidates v2 ∧
    s.balance.spendable = sumV s.spendable ∧
    ∀ amount inputs, amount ≠ 0 →
      ((s.selectUTXOs S amount inputs false v2).isSome = true ↔ amount ≤ s.balance.spendable) := by
  refine ⟨spendable_eq_candidates s v2, balance_spendable s hown, ?_⟩
  intro amount inputs h0
  rw [select_complete S s amount inputs v2 h0, balance_spendable s hown, spendable_eq_candidates s v2]

/-- the spendable outputs are the unspent, mature, unreserved outputs no pooled transaction spends -/
theorem spendable_spec (s : State) (u : Utxo) :
    u ∈ s.spendable ↔ u ∈ s.utxos ∧ u.maturity ≤ s.height ∧ s.isLocked u.id = false ∧ u.id ∉ s.inPool := by
  rw [spendable_eq_candidates s true, mem_candidates]; grind

/-! ### the signed result is accepted -/

/-- **funded_accepted.** Right after a successful Fund call (before the chain or the pool change)
every input of the funded transaction passes the pool's test (the store may lag behind the
manager, never lead it): unspent in the pool and either a
confirmed output spendable in the next block or an output of a pooled transaction of its version. -/
theorem funded_accepted (S : Sorter) (s : State) (h : Nat) (v2 : Bool) (amount : Nat) (uc : Bool) (inputs : Nat)
    (pre : List (Nat × Bool)) (ins : List Utxo) (sum change : Nat)
    (hord : PoolOrdered (s.poolV1 ++ s.poolV2)) (hlag : s.height ≤ s.cmHeight)
    (hf : (s.fund S h v2 amount uc inputs pre).2 = .ok ins sum change) :
    (s.fund S h v2 amount uc inputs pre).1.accepts v2 (ins.map (·.id)) = true := by
  rcases fund_spec S s h v2 amount uc inputs pre with ⟨_, e⟩ | e | ⟨sel, hsel, e⟩
  · rw [e] at hf
    obtain ⟨rfl, _, _⟩ := FundOut.ok.inj hf
    rfl
  · rw [e] at hf; cases hf
  · rw [e] at hf ⊢
    obtain ⟨rfl, _, _⟩ := FundOut.ok.inj hf
    rw [reserve_accepts]
    exact select_accepted hsel hord hlag

/-! ### non-vacuity: a concrete reachable state -/

private def cfg0 : Cfg := ⟨1, 10, 10, 100, 0, 48, 2⟩
private def s0 : State :=
  { State.init cfg0 with utxos := [⟨1, 300, 3⟩, ⟨2, 200, 4⟩, ⟨3, 100, 5⟩, ⟨4, 50, 20⟩], height := 8, cmHeight := 8, nextId := 5 }

/-- funding 250 takes the largest output and defrags the two others; the immature one is left -/
example : (s0.selectUTXOs stdSorter 250 0 false true) = some [⟨1, 300, 3⟩, ⟨3, 100, 5⟩, ⟨2, 200, 4⟩] := by decide
/-- before its repair `selectUTXOs` selected every output twice when the amount needed all of them -/
example : (s0.selectUTXOs stdSorter 600 0 false true) = some [⟨1, 300, 3⟩, ⟨2, 200, 4⟩, ⟨3, 100, 5⟩] := by decide
example : (s0.selectUTXOs stdSorter 601 0 false true) = none := by decide
example : s0.balance.spendable = 600 ∧ sumV s0.spendable = 600 := by decide
/-- a v2 spend in the pool without a reservation (the state in which `SpendableOutputs`
disagreed with `Balance` before its repair): both views drop output 1 -/
example :
    let s := (s0.xspend true 1 0 300).1
    s.balance.spendable = 300 ∧ s.spendable = [⟨2, 200, 4⟩, ⟨3, 100, 5⟩] := by decide
/-- an expired set stored ahead of a fresh one does not stop the reload: after a restart with a new
manager the broadcast transaction is pooled again and both views drop its input -/
example :
    let s := ((((s0.stale).fund stdSorter 0 true 250 false 0 [(250, false)]).1.bcast 0 true).1).restart true
    s.poolV2.length = 1 ∧ s.balance.spendable = 0 ∧ s.spendable = [] := by decide
example : Inv s0 := inv'_restart _ _
example : StoreWF s0 := ⟨by decide, fun _ ht => nomatch ht⟩
example : PoolOrdered ((s0.xspend true 1 0 300).1.poolV1 ++ (s0.xspend true 1 0 300).1.poolV2) := by
  simp [s0, State.init, State.xspend, State.accepts, State.scanPool, State.scanSelect, scanTxns, State.addPool,
    numberOuts, PoolOrdered]

end Verif.C07
