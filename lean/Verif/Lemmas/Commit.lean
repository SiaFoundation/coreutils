/-
Helper lemmas for C03: cutting the micro-op stream anywhere leaves a durable image that is the
working image at some block boundary; the block-level run is the M3 node run.
-/
import Verif.Model.Commit
import Verif.Lemmas.Elements

namespace Verif.Commit
open Verif.Elements

theorem exec_append (s : Sys) (a b : List Micro) : s.exec (a ++ b) = (s.exec a).exec b := by
  simp [Sys.exec, List.foldl_append]

theorem exec_nil (s : Sys) : s.exec [] = s := rfl

theorem exec_cons (s : Sys) (m : Micro) (ms : List Micro) : s.exec (m :: ms) = (s.micro m).exec ms := rfl

theorem micro_durable (s : Sys) (m : Micro) (h : m ≠ .flush) :
    (s.micro m).durable = s.durable ∧ (s.micro m).working = microNode s.working m := by
  cases m <;> first | exact absurd rfl h | exact ⟨rfl, rfl⟩

theorem micro_flush (s : Sys) : (s.micro .flush).durable = s.working ∧ (s.micro .flush).working = s.working :=
  ⟨rfl, rfl⟩

theorem exec_compile1 (s : Sys) (op : BOp) :
    (s.exec (compile1 op)).working = blockStep s.working op ∧
    ((s.exec (compile1 op)).durable = s.durable ∨ (s.exec (compile1 op)).durable = blockStep s.working op) := by
  cases op with
  | apply b f => cases f <;> simp [compile1, Sys.exec, Sys.micro, blockStep]
  | revert f => cases f <;> simp [compile1, Sys.exec, Sys.micro, blockStep]
  | flush => simp [compile1, Sys.exec, Sys.micro, blockStep]

/-- cutting inside the micro sequence of one block-level operation: the durable image is the
old one, or — only once the trailing flush has run — the image after the whole operation -/
theorem exec_take_compile1 (s : Sys) (op : BOp) (k : Nat) :
    (s.exec ((compile1 op).take k)).durable = s.durable ∨
    (s.exec ((compile1 op).take k)).durable = blockStep s.working op := by
  cases op with
  | apply b f =>
    cases f <;> match k with
    | 0 | 1 | 2 | 3 | k + 4 => simp [compile1, Sys.exec, Sys.micro, blockStep]
  | revert f =>
    cases f <;> match k with
    | 0 | 1 | 2 | k + 3 => simp [compile1, Sys.exec, Sys.micro, blockStep]
  | flush =>
    match k with
    | 0 | k + 1 => simp [compile1, Sys.exec, Sys.micro, blockStep]

theorem boundaries_head (n : Node) (ops : List BOp) : n ∈ boundaries n ops := by
  cases ops <;> simp [boundaries]

theorem boundaries_tail (n : Node) (op : BOp) (ops : List BOp) :
    ∀ x, x ∈ boundaries (blockStep n op) ops → x ∈ boundaries n (op :: ops) := by
  intro x hx; simp [boundaries, hx]

/-- the cut theorem, for any starting state and any set `B` of acceptable images -/
theorem durable_mem_boundaries (ops : List BOp) : ∀ (s : Sys) (k : Nat) (B : Node → Prop),
    B s.durable → (∀ x, x ∈ boundaries s.working ops → B x) →
    B (s.exec ((compile ops).take k)).durable := by
  induction ops with
  | nil => intro s k B hd _; simpa [compile, Sys.exec] using hd
  | cons op ops ih =>
    intro s k B hd hb
    have hc : compile (op :: ops) = compile1 op ++ compile ops := by simp [compile]
    rw [hc, List.take_append]
    rw [exec_append]
    by_cases hk : k ≤ (compile1 op).length
    · -- the cut is inside (or right after) this operation
      have h0 : k - (compile1 op).length = 0 := by omega
      rw [h0, List.take_zero, exec_nil]
      rcases exec_take_compile1 s op k with h | h
      · rw [h]; exact hd
      · rw [h]; exact hb _ (boundaries_tail _ _ _ _ (boundaries_head _ _))
    · have hfull : (compile1 op).take k = compile1 op := List.take_of_length_le (by omega)
      rw [hfull]
      have hw := exec_compile1 s op
      apply ih
      · rcases hw.2 with h | h
        · rw [h]; exact hd
        · rw [h]; exact hb _ (boundaries_tail _ _ _ _ (boundaries_head _ _))
      · intro x hx
        rw [hw.1] at hx
        exact hb x (boundaries_tail _ _ _ _ hx)

theorem mem_boundaries_iff (ops : List BOp) : ∀ (n x : Node),
    x ∈ boundaries n ops ↔ ∃ j, j ≤ ops.length ∧ x = blockRun n (ops.take j) := by
  induction ops with
  | nil =>
    intro n x
    simp only [boundaries, List.mem_singleton, List.length_nil, Nat.le_zero_eq]
    constructor
    · intro h; exact ⟨0, rfl, by simp [blockRun, h]⟩
    · rintro ⟨j, hj, h⟩; subst hj; simpa [blockRun] using h
  | cons op ops ih =>
    intro n x
    simp only [boundaries, List.mem_cons, List.length_cons]
    constructor
    · rintro (h | h)
      · exact ⟨0, by omega, by simp [blockRun, h]⟩
      · obtain ⟨j, hj, hx⟩ := (ih _ _).mp h
        exact ⟨j + 1, by omega, by simp [blockRun, hx]⟩
    · rintro ⟨j, hj, hx⟩
      cases j with
      | zero => left; simpa [blockRun] using hx
      | succ j =>
        right
        exact (ih _ _).mpr ⟨j, by omega, by simpa [blockRun] using hx⟩

/-- the block-level operations of a history as M3 operations (`flush` is not one) -/
def toOps (ops : List BOp) : List Elements.Op := ops.filterMap BOp.toOp

theorem step_eq_blockStep {n n' : Node} {op : BOp} {o : Elements.Op} (ho : op.toOp = some o)
    (h : n.step o = some n') : blockStep n op = n' := by
  cases op with
  | apply b f =>
    cases ho
    obtain ⟨_, _, ds, hds, rfl⟩ := applyTip_some h
    have hd : diffsFor n b = ds := by
      rcases hds with hsb | ⟨hsb, rfl⟩ <;> simp [diffsFor, hsb]
    simp only [blockStep, microNode, diffsFor, set_same] at hd ⊢
    rw [hd]
    unfold applyBlock applyBlockPanics
    by_cases hh : (n.U b).height ≤ n.req <;> simp [hh]
    all_goals rfl
  | revert f =>
    cases ho
    obtain ⟨_, ds, hds, rfl⟩ := revertTip_some h
    simp only [blockStep, microNode, diffsFor, hds]
    unfold revertBlock revertBlockPanics
    by_cases hh : n.store.height - 1 ≤ n.req <;> simp [hh, revertDiffs_eq]
  | flush => cases ho

theorem run_eq_blockRun (ops : List BOp) : ∀ (n n' : Node), n.run (toOps ops) = some n' → blockRun n ops = n' := by
  induction ops with
  | nil => intro n n' h; exact Option.some.inj h
  | cons op ops ih =>
    intro n n' h
    rw [toOps, List.filterMap_cons] at h
    cases ho : op.toOp with
    | none =>
      rw [ho] at h
      cases op <;> cases ho
      exact ih n n' h
    | some o =>
      rw [ho, Node.run] at h
      cases hs : n.step o with
      | none => rw [hs] at h; cases h
      | some n1 =>
        rw [hs] at h
        rw [blockRun, List.foldl_cons, step_eq_blockStep ho hs]
        exact ih n1 n' h

theorem toOps_take (ops : List BOp) (j : Nat) : toOps ops = toOps (ops.take j) ++ toOps (ops.drop j) := by
  rw [toOps, toOps, toOps, ← List.filterMap_append, List.take_append_drop]

theorem durable_eq_blockRun (n0 : Node) (ops : List BOp) (k : Nat) :
    ∃ j, j ≤ ops.length ∧ ((Sys.init n0).exec ((compile ops).take k)).durable = blockRun n0 (ops.take j) :=
  (mem_boundaries_iff ops n0 _).mp
    (durable_mem_boundaries ops (Sys.init n0) k (· ∈ boundaries n0 ops) (boundaries_head n0 ops) fun _ hx => hx)

theorem durable_inv {req : Nat} {U : Nat → BlkInfo} (hU : WFU U) (hB : WFBlocks req U)
    (ops : List BOp) (n : Node) (hrun : (Node.init req U).run (toOps ops) = some n)
    (hs : RevertsStable req U (Node.init req U) (toOps ops)) (k : Nat) :
    Inv req U ((Sys.init (Node.init req U)).exec ((compile ops).take k)).durable := by
  obtain ⟨j, _, h⟩ := durable_eq_blockRun (Node.init req U) ops k
  -- the image at boundary `j`; the history up to there is itself a run with stable reverts
  rw [toOps_take ops j] at hrun hs
  obtain ⟨m, hm⟩ := run_prefix hrun
  rw [h, run_eq_blockRun (ops.take j) _ m hm]
  exact inv_run hU hB _ _ m (inv_init req U hU) hs.prefix hm

end Verif.Commit
