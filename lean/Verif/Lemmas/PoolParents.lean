/-
The parent closure of `UnconfirmedParents` / `V2TransactionSet` (C13): it terminates within its
fuel, is closed under pooled creators, and is returned in pool order.  Core only.
-/
import Verif.Lemmas.PoolValid

namespace Verif.Pool

/-- pigeonhole: distinct numbers below `n` -/
theorem nodup_bound : ∀ (n : Nat) (s : List Nat), s.Nodup → (∀ k ∈ s, k < n) → s.length ≤ n :=
  fun n s hn h => by
    simpa using hn.length_le_of_subset (l₂ := List.range n) fun k hk => List.mem_range.2 (h k hk)

/-! ## `parentIndex` and `keepIdx` -/

theorem parentIndex_some {pool : List Txn} {e j : Nat} (h : parentIndex pool e = some j) :
    ∃ t, pool[j]? = some t ∧ e ∈ t.outputs := by
  obtain ⟨⟨t, i⟩, hf, rfl⟩ := Option.map_eq_some_iff.1 h
  refine ⟨t, List.mk_mem_zipIdx_iff_getElem?.1 (List.mem_reverse.1 (List.mem_of_find?_eq_some hf)), ?_⟩
  simpa using List.find?_some hf

theorem parentIndex_lt {pool : List Txn} {e j : Nat} (h : parentIndex pool e = some j) : j < pool.length := by
  obtain ⟨t, ht, _⟩ := parentIndex_some h
  exact (List.getElem?_eq_some_iff.1 ht).1

theorem parentIndex_of_created {pool : List Txn} {e : Nat} (h : e ∈ createdOf pool) : ∃ j, parentIndex pool e = some j := by
  obtain ⟨t, ht, he⟩ := mem_createdOf.1 h
  obtain ⟨i, hi⟩ := List.getElem?_of_mem ht
  rw [← Option.isSome_iff_exists, parentIndex, Option.isSome_map, List.find?_isSome]
  exact ⟨(t, i), List.mem_reverse.2 (List.mk_mem_zipIdx_iff_getElem?.2 hi), by simpa using he⟩

theorem keepIdx_eq (ts : List Txn) (keep : List Nat) :
    keepIdx ts keep = (ts.zipIdx.filter fun x => keep.contains x.2).map (·.1) := by
  rw [← List.filterMap_eq_map', List.filterMap_filter]
  rfl

theorem mem_keepIdx {ts : List Txn} {keep : List Nat} {t : Txn} :
    t ∈ keepIdx ts keep ↔ ∃ k ∈ keep, ts[k]? = some t := by
  simp only [keepIdx_eq, List.mem_map, List.mem_filter, Prod.exists, List.mk_mem_zipIdx_iff_getElem?,
    List.contains_eq_mem, decide_eq_true_eq]
  constructor
  · rintro ⟨u, k, ⟨hu, hk⟩, rfl⟩; exact ⟨k, hk, hu⟩
  · rintro ⟨k, hk, hu⟩; exact ⟨t, k, ⟨hu, hk⟩, rfl⟩

/-- the parents are returned in pool order -/
theorem keepIdx_sublist (ts : List Txn) (keep : List Nat) : (keepIdx ts keep).Sublist ts := by
  have := (List.filter_sublist (p := fun x => keep.contains x.2) (l := ts.zipIdx)).map Prod.fst
  rwa [List.zipIdx_map_fst, ← keepIdx_eq] at this

/-! ## the closure -/

/-- positions collected by the parent search: no position twice, all inside the pool -/
def Bnd (n : Nat) (s : List Nat) : Prop := s.Nodup ∧ ∀ k ∈ s, k < n

/-- the body of `addParents` for one input -/
def addParent (pool : List Txn) (seen : List Nat) (i : Inp) : List Nat :=
  match parentIndex pool i.elem with
  | some k => if seen.contains k then seen else seen ++ [k]
  | none => seen

theorem addParents_cons (pool : List Txn) (seen : List Nat) (i : Inp) (is : List Inp) :
    addParents pool seen (i :: is) = addParents pool (addParent pool seen i) is := by
  rw [addParents, addParent]
  cases parentIndex pool i.elem with
  | none => rfl
  | some k => exact (apply_ite (fun s => addParents pool s is) _ _ _).symm

theorem addParent_props {pool : List Txn} {seen : List Nat} (h : Bnd pool.length seen) (i : Inp) :
    Bnd pool.length (addParent pool seen i) ∧ seen <+: addParent pool seen i ∧
    ∀ j, parentIndex pool i.elem = some j → j ∈ addParent pool seen i := by
  unfold addParent
  cases hp : parentIndex pool i.elem with
  | none => exact ⟨h, List.prefix_refl _, nofun⟩
  | some k =>
    by_cases hk : k ∈ seen
    · simp only [List.contains_eq_mem, hk, decide_true, if_true, Option.some.injEq]
      exact ⟨h, List.prefix_refl _, fun j hj => hj ▸ hk⟩
    · simp only [List.contains_eq_mem, hk, decide_false, Bool.false_eq_true, if_false, Option.some.injEq]
      refine ⟨⟨?_, ?_⟩, List.prefix_append _ _, fun j hj => by simp [hj]⟩
      · simpa [List.nodup_append, h.1] using fun a ha e => hk (by rwa [e] at ha)
      · intro x hx
        rcases List.mem_append.1 hx with hx | hx
        · exact h.2 x hx
        · cases List.mem_singleton.1 hx; exact parentIndex_lt hp

theorem addParents_props (pool : List Txn) : ∀ (is : List Inp) (seen : List Nat), Bnd pool.length seen →
    Bnd pool.length (addParents pool seen is) ∧ seen <+: addParents pool seen is ∧
    (∀ i ∈ is, ∀ j, parentIndex pool i.elem = some j → j ∈ addParents pool seen is)
  | [], seen, h => ⟨h, List.prefix_refl _, nofun⟩
  | i :: is, seen, h => by
    rw [addParents_cons]
    obtain ⟨a0, b0, c0⟩ := addParent_props h i
    obtain ⟨a, b, c⟩ := addParents_props pool is _ a0
    refine ⟨a, b0.trans b, fun i' hi' j hj => ?_⟩
    rcases List.mem_cons.1 hi' with rfl | hi'
    · exact b.subset (c0 j hj)
    · exact c i' hi' j hj

theorem parentsRound_props (pool : List Txn) : ∀ (ks : List Nat) (seen : List Nat), Bnd pool.length seen →
    Bnd pool.length (parentsRound pool seen ks) ∧ seen <+: parentsRound pool seen ks ∧
    (∀ k ∈ ks, ∀ t, pool[k]? = some t → ∀ i ∈ t.inputs, ∀ j, parentIndex pool i.elem = some j →
      j ∈ parentsRound pool seen ks)
  | [], seen, h => ⟨h, List.prefix_refl _, nofun⟩
  | k :: ks, seen, h => by
    rw [parentsRound]
    cases hk : pool[k]? with
    | none =>
      obtain ⟨a, b, c⟩ := parentsRound_props pool ks seen h
      refine ⟨a, b, fun k' hk' t ht => ?_⟩
      rcases List.mem_cons.1 hk' with rfl | hk'
      · rw [hk] at ht; cases ht
      · exact c k' hk' t ht
    | some u =>
      obtain ⟨a0, b0, c0⟩ := addParents_props pool u.inputs seen h
      obtain ⟨a, b, c⟩ := parentsRound_props pool ks _ a0
      refine ⟨a, b0.trans b, fun k' hk' t ht i hi j hj => ?_⟩
      rcases List.mem_cons.1 hk' with rfl | hk'
      · rw [hk] at ht; cases ht
        exact b.subset (c0 i hi j hj)
      · exact c k' hk' t ht i hi j hj

/-- with every position it contains, `s` contains the pooled creator of each of its inputs -/
def ClosedSet (pool : List Txn) (s : List Nat) : Prop :=
  ∀ k ∈ s, ∀ t, pool[k]? = some t → ∀ i ∈ t.inputs, ∀ j, parentIndex pool i.elem = some j → j ∈ s

/-- a round that adds nothing has reached the closure; one that adds something uses up fuel, and
there are at most `pool.length` positions to add -/
theorem parentsClosure_props (pool : List Txn) : ∀ (fuel : Nat) (seen : List Nat), Bnd pool.length seen →
    pool.length - seen.length < fuel →
    Bnd pool.length (parentsClosure pool fuel seen) ∧ seen <+: parentsClosure pool fuel seen ∧
    ClosedSet pool (parentsClosure pool fuel seen)
  | 0, _, _, hf => by omega
  | fuel + 1, seen, h, hf => by
    obtain ⟨a, b, c⟩ := parentsRound_props pool seen seen h
    rw [parentsClosure]
    split
    · rename_i hl
      refine ⟨h, List.prefix_refl _, fun k hk t ht i hi j hj => ?_⟩
      have := c k hk t ht i hi j hj
      rwa [← b.eq_of_length hl.symm] at this
    · have := b.length_le
      have := nodup_bound pool.length _ a.1 a.2
      obtain ⟨a', b', c'⟩ := parentsClosure_props pool fuel _ a (by omega)
      exact ⟨a', b.trans b', c'⟩

/-- **the parents of `t`**: pooled transactions only, in pool order, containing the pooled creator
of every input of `t` and of every parent (so: all pooled ancestors) -/
theorem parentsOf_spec (pool : List Txn) (t : Txn) :
    (parentsOf pool t).Sublist pool ∧
    ∃ seen, parentsOf pool t = keepIdx pool seen ∧ ClosedSet pool seen ∧
      (∀ i ∈ t.inputs, ∀ j, parentIndex pool i.elem = some j → j ∈ seen) := by
  obtain ⟨a0, _, c0⟩ := addParents_props pool t.inputs [] ⟨List.nodup_nil, nofun⟩
  have := nodup_bound pool.length _ a0.1 a0.2
  obtain ⟨_, b, c⟩ := parentsClosure_props pool (pool.length + 1) _ a0 (by omega)
  exact ⟨keepIdx_sublist _ _, _, rfl, c, fun i hi j hj => b.subset (c0 i hi j hj)⟩

end Verif.Pool
