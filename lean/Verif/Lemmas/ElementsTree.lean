/-
The Tree bucket of `DBStore` (`db.go:522-548`): `treeKey` packs a `(row, col)` position into 32
bits without collisions, and the positions `getElementProof` reads (`proofLen`, the sibling at
every row below the highest bit where `leaf` and `n` differ) are nodes of the current tree.
-/
import Verif.Model.Elements

namespace Verif.Elements

/-- on its intended domain the packed key is `row` one-bits, a zero bit, and `col` -/
theorem treeKey_eq {row col : Nat} (hr : row < 32) (hc : col < 2 ^ (31 - row)) :
    treeKey row col = 2 ^ 32 - 2 * 2 ^ (31 - row) + col := by
  have hsucc : 2 ^ (32 - row) = 2 * 2 ^ (31 - row) := by
    rw [show 32 - row = (31 - row) + 1 by omega, Nat.pow_succ, Nat.mul_comm]
  have hmul : 2 ^ row * 2 ^ (32 - row) = 2 ^ 32 := by
    rw [← Nat.pow_add, show row + (32 - row) = 32 by omega]
  have hle : 2 ^ (32 - row) ≤ 2 ^ 32 := Nat.pow_le_pow_right (by omega) (by omega)
  unfold treeKey
  rw [Nat.one_shiftLeft, ← Nat.shiftLeft_add_eq_or_of_lt (by omega), Nat.shiftLeft_eq, Nat.sub_mul,
    Nat.one_mul, hmul, hsucc] at *
  generalize 2 ^ (31 - row) = A at *
  exact Nat.mod_eq_of_lt (by omega)

theorem treeKey_lt {r c r' c' : Nat} (hr' : r' < 32) (hlt : r < r')
    (hc : c < 2 ^ (31 - r)) (hc' : c' < 2 ^ (31 - r')) : treeKey r c < treeKey r' c' := by
  rw [treeKey_eq (by omega) hc, treeKey_eq hr' hc']
  have h1 : 2 * 2 ^ (31 - r') ≤ 2 ^ (31 - r) := by
    rw [← Nat.pow_succ']
    exact Nat.pow_le_pow_right (by omega) (by omega)
  have h2 : 2 * 2 ^ (31 - r) ≤ 2 ^ 32 := by
    rw [← Nat.pow_succ']
    exact Nat.pow_le_pow_right (by omega) (by omega)
  generalize 2 ^ (31 - r) = A at *
  generalize 2 ^ (31 - r') = B at *
  omega

theorem treeKey_injective {r c r' c' : Nat} (hr : r < 32) (hr' : r' < 32)
    (hc : c < 2 ^ (31 - r)) (hc' : c' < 2 ^ (31 - r')) (h : treeKey r c = treeKey r' c') :
    r = r' ∧ c = c' := by
  rcases Nat.lt_trichotomy r r' with hlt | rfl | hgt
  · exact absurd h (Nat.ne_of_lt (treeKey_lt hr' hlt hc hc'))
  · rw [treeKey_eq hr hc, treeKey_eq hr hc'] at h
    exact ⟨rfl, Nat.add_left_cancel h⟩
  · exact absurd h.symm (Nat.ne_of_lt (treeKey_lt hr hgt hc' hc))

/-- every node `getElementProof(leaf, n)` reads is the root of a complete subtree inside `[0, n)` -/
theorem proof_reads_live_nodes {leaf n i : Nat} (h : leaf < n) (hi : i < proofLen leaf n) :
    nodeLive n i ((leaf >>> i) ^^^ 1) := by
  unfold proofLen at hi
  unfold nodeLive
  have hx : leaf ^^^ n ≠ 0 := by
    intro h0
    rw [h0] at hi
    simp at hi
  have hlo : 2 ^ (leaf ^^^ n).log2 ≤ leaf ^^^ n := Nat.log2_self_le hx
  have hhi : leaf ^^^ n < 2 ^ ((leaf ^^^ n).log2 + 1) := Nat.lt_log2_self
  -- `k` is the highest bit where `leaf` and `n` differ
  generalize (leaf ^^^ n).log2 = k at hi hlo hhi
  have hkpos : 0 < 2 ^ k := Nat.pow_pos (by omega)
  -- above bit `k` the two agree, and at bit `k` they differ
  have hdiv : leaf / 2 ^ k ^^^ n / 2 ^ k = 1 := by
    rw [← Nat.xor_div_two_pow]
    apply Nat.div_eq_of_lt_le
    · omega
    · rw [Nat.pow_succ] at hhi; omega
  have hab : leaf / 2 ^ k + 1 ≤ n / 2 ^ k := by
    have hle : leaf / 2 ^ k ≤ n / 2 ^ k := Nat.div_le_div_right (Nat.le_of_lt h)
    have hne : leaf / 2 ^ k ≠ n / 2 ^ k := by
      intro he
      rw [he, Nat.xor_self] at hdiv
      omega
    omega
  have hn : (leaf / 2 ^ k + 1) * 2 ^ k ≤ n :=
    Nat.le_trans (Nat.mul_le_mul_right _ hab) (Nat.div_mul_le_self _ _)
  -- the sibling at row `i` sits below the same ancestor at row `k`
  have hsplit : 2 ^ k = 2 ^ i * 2 ^ (k - i) := by
    rw [← Nat.pow_add, show i + (k - i) = k by omega]
  have hone : 1 / 2 ^ (k - i) = 0 := by
    apply Nat.div_eq_of_lt
    exact Nat.one_lt_two_pow (by omega)
  have hc : ((leaf >>> i) ^^^ 1) / 2 ^ (k - i) = leaf / 2 ^ k := by
    rw [Nat.xor_div_two_pow, hone, Nat.xor_zero, Nat.shiftRight_eq_div_pow,
      Nat.div_div_eq_div_mul, ← hsplit]
  have hdpos : 0 < 2 ^ (k - i) := Nat.pow_pos (by omega)
  have hlt : (leaf >>> i) ^^^ 1 < (leaf / 2 ^ k + 1) * 2 ^ (k - i) := by
    rw [← Nat.div_lt_iff_lt_mul hdpos, hc]
    omega
  calc (((leaf >>> i) ^^^ 1) + 1) * 2 ^ i
      ≤ ((leaf / 2 ^ k + 1) * 2 ^ (k - i)) * 2 ^ i := Nat.mul_le_mul_right _ (Nat.succ_le_of_lt hlt)
    _ = (leaf / 2 ^ k + 1) * 2 ^ k := by
        rw [Nat.mul_assoc, Nat.mul_comm (2 ^ (k - i)), ← hsplit]
    _ ≤ n := hn

end Verif.Elements
