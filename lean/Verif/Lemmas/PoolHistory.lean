/-
Retention over histories (C05): the carried set through every operation.  Core only.
-/
import Verif.Lemmas.PoolRetain

namespace Verif.Pool

/-- a self-valid set `K1, K2` inside the (possibly not yet re-validated) pool `p` -/
structure Carried (S : Nat → Bool × List Nat × List Nat) (p : Pool) (K1 K2 : List Txn) : Prop where
  conf : PoolConf S p
  lists : ListsOK p
  sub1 : K1.Sublist p.txns
  sub2 : K2.Sublist p.v2txns
  robust : Robust p.led K1 K2
  reoffer : ∀ w ∈ p.lastReverted ++ p.lastRevertedV2, ∀ i ∈ w.inputs, i.elem ∉ spentOf (K1 ++ K2)

theorem spentOf_carry_sub (b : Blk) (K1 K2 : List Txn) :
    ∀ e ∈ spentOf (carryA1 b K1 ++ carryA2 b K2), e ∈ spentOf (K1 ++ K2) := by
  intro e he
  rw [spentOf_append, carryA2, spentOf_map_elems _ (confirmInp_elem b.created)] at he
  rw [spentOf_append]
  exact (List.mem_append.1 he).elim
    (fun h => List.mem_append_left _ ((spentOf_sublist List.filter_sublist).subset h))
    fun h => List.mem_append_right _ ((spentOf_sublist List.filter_sublist).subset h)

theorem Carried.apply {S p K1 K2} (h : Carried S p K1 K2) (b : Blk) (ok : AppOK p.led b K1 K2) :
    Carried S (applyPoolUpdate p b) (carryA1 b K1) (carryA2 b K2) :=
  { conf := applyPoolUpdate_conf b h.conf
    lists := listsOK_update p _ (confirmInp_elem b.created) _ h.lists _ rfl rfl
    sub1 := List.filter_sublist.trans h.sub1
    sub2 := apply_sublist h.robust b ok p h.sub2
    robust := h.robust.apply b ok
    reoffer := fun w hw i hi hm => h.reoffer w hw i hi (spentOf_carry_sub b K1 K2 _ hm) }

theorem Carried.revert {S p K1 K2} (h : Carried S p K1 K2) (b : Blk) (ok : RevOK p.led b K1 K2) :
    Carried S (revertPoolUpdate p b) K1 K2 :=
  { conf := revertPoolUpdate_conf b h.conf
    lists := listsOK_update p _ (unconfirmInp_elem b.created) _ h.lists _ rfl rfl
    sub1 := h.sub1
    sub2 := revert_sublist h.robust b ok p h.sub2
    robust := h.robust.revert b ok
    reoffer := h.reoffer }

/-- the side conditions along the revert leg / the apply leg (each block against the ledger and
the set as they are when the block is processed) -/
def RevPathOK : Ledger → List Blk → List Txn → List Txn → Prop
  | _, [], _, _ => True
  | l, b :: bs, K1, K2 => RevOK l b K1 K2 ∧ RevPathOK (l.revert b) bs K1 K2

def AppPathOK : Ledger → List Blk → List Txn → List Txn → Prop
  | _, [], _, _ => True
  | l, b :: bs, K1, K2 => AppOK l b K1 K2 ∧ AppPathOK (l.apply b) bs (carryA1 b K1) (carryA2 b K2)

/-- what is left of the set after the apply leg -/
def carryApp : List Blk → List Txn × List Txn → List Txn × List Txn
  | [], K => K
  | b :: bs, K => carryApp bs (carryA1 b K.1, carryA2 b K.2)

theorem Carried.revertLeg {S} : ∀ (rev : List Blk) {p : Pool} {K1 K2 : List Txn}, Carried S p K1 K2 →
    RevPathOK p.led rev K1 K2 → Carried S (rev.foldl revertPoolUpdate p) K1 K2
  | [], _, _, _, h, _ => h
  | b :: bs, _, _, _, h, ok => Carried.revertLeg bs (h.revert b ok.1) ok.2

theorem Carried.applyLeg {S} : ∀ (app : List Blk) {p : Pool} {K1 K2 : List Txn}, Carried S p K1 K2 →
    AppPathOK p.led app K1 K2 →
    Carried S (app.foldl applyPoolUpdate p) (carryApp app (K1, K2)).1 (carryApp app (K1, K2)).2
  | [], _, _, _, h, _ => h
  | b :: bs, _, _, _, h, ok => Carried.applyLeg bs (h.apply b ok.1) ok.2

theorem revertLeg_led : ∀ (rev : List Blk) (p : Pool), (rev.foldl revertPoolUpdate p).led = rev.foldl Ledger.revert p.led
  | [], _ => rfl
  | b :: bs, p => by simp only [List.foldl_cons]; rw [revertLeg_led bs]; rfl

theorem spentOf_carryApp_sub : ∀ (app : List Blk) (K1 K2 : List Txn),
    ∀ e ∈ spentOf ((carryApp app (K1, K2)).1 ++ (carryApp app (K1, K2)).2), e ∈ spentOf (K1 ++ K2)
  | [], _, _, _, he => he
  | b :: bs, K1, K2, e, he => spentOf_carry_sub b K1 K2 e (spentOf_carryApp_sub bs _ _ e he)

theorem zipBad_inputs : ∀ (ts : List Txn) (fl : List Bool) (w : Txn), w ∈ zipBad ts fl →
    ∃ u ∈ ts, w.inputs.map (·.elem) = u.inputs.map (·.elem)
  | [], _, _, h => by cases h
  | t :: ts, fl, w, h => by
    rw [zipBad_cons] at h
    rcases List.mem_cons.1 h with rfl | h
    · exact ⟨t, List.mem_cons_self, mapInputs_elems (fun i => { i with bad := fl.headD true }) (fun _ => rfl) t⟩
    · obtain ⟨u, hu, e⟩ := zipBad_inputs ts _ w h
      exact ⟨u, List.mem_cons_of_mem _ hu, e⟩

/-- marking the remembered v2 transactions with core's verdicts does not change what they spend -/
theorem reoffer_zipBad {A B : List Txn} {Z : List Nat} (fl : List Bool)
    (h : ∀ w ∈ A ++ B, ∀ i ∈ w.inputs, i.elem ∉ Z) : ∀ w ∈ A ++ zipBad B fl, ∀ i ∈ w.inputs, i.elem ∉ Z := by
  intro w hw i hi
  rcases List.mem_append.1 hw with hw | hw
  · exact h w (List.mem_append_left _ hw) i hi
  · obtain ⟨u, hu, e⟩ := zipBad_inputs _ _ w hw
    obtain ⟨j, hj, ej⟩ := List.mem_map.1 (e ▸ List.mem_map_of_mem hi)
    exact ej ▸ h u (List.mem_append_right _ hu) j hj

/-- **one reorg** (any revert leg, any apply leg, then the tail of `reorgTo`) -/
theorem Carried.reorg {S p K1 K2} (h : Carried S p K1 K2) (rev app : List Blk) (flags : List Bool)
    (hrev : RevPathOK p.led rev K1 K2) (happ : AppPathOK (rev.foldl Ledger.revert p.led) app K1 K2)
    (hconf : ∀ b ∈ rev, BlkConf S b)
    (hre : ∀ b, rev.head? = some b → ∀ w ∈ b.txns ++ b.v2txns, ∀ i ∈ w.inputs, i.elem ∉ spentOf (K1 ++ K2)) :
    Carried S (reorg p rev app flags) (carryApp app (K1, K2)).1 (carryApp app (K1, K2)).2 := by
  have h2 := Carried.applyLeg app (Carried.revertLeg rev h hrev) (by rw [revertLeg_led]; exact happ)
  have hc := reorg_conf rev app flags h.conf hconf
  unfold Verif.Pool.reorg reorgEnd at hc ⊢
  cases hh : rev.head? <;> rw [hh] at hc <;>
    refine ⟨hc, h2.lists.congr rfl rfl, h2.sub1, h2.sub2, h2.robust, reoffer_zipBad flags ?_⟩
  · exact h2.reoffer
  · rename_i b
    refine fun w hw i hi hm => hre b hh w ?_ i hi (spentOf_carryApp_sub app K1 K2 _ hm)
    exact (List.mem_append.1 hw).elim (fun h => List.mem_append_left _ (List.mem_filter.1 h).1)
      fun h => List.mem_append_right _ (List.mem_filter.1 h).1

/-! ## observations -/

/-- once re-validated, nothing is remembered for re-offer any more (repaired code) -/
def LRInv (p : Pool) : Prop := p.ms.isSome = true → p.lastReverted = [] ∧ p.lastRevertedV2 = []

theorem Carried.others {S p K1 K2} (h : Carried S p K1 K2) :
    (∀ x ∈ p.txns, x ∉ K1 → ∀ i ∈ x.inputs, i.elem ∉ spentOf (K1 ++ K2)) ∧
    (∀ x ∈ p.v2txns, x ∉ K2 → ∀ i ∈ x.inputs, i.elem ∉ spentOf (K1 ++ K2)) := by
  have hd := others_disjoint (List.Sublist.append h.sub1 h.sub2) h.lists.spent
  constructor
  · refine fun x hx hxK => hd x (List.mem_append_left _ hx) fun hm => ?_
    exact (List.mem_append.1 hm).elim hxK fun hm =>
      Conf.kind_ne (h.conf.t1 x hx) (h.conf.t2 x (h.sub2.subset hm)) rfl
  · refine fun x hx hxK => hd x (List.mem_append_right _ hx) fun hm => ?_
    exact (List.mem_append.1 hm).elim
      (fun hm => Conf.kind_ne (h.conf.t1 x (h.sub1.subset hm)) (h.conf.t2 x hx) rfl) hxK

/-- **an observation** (`revalidatePool`): unless the pool is full, the set is still there -/
theorem Carried.observe {cfg S p K1 K2} (h : Carried S p K1 K2)
    (hfull : p.weight < cfg.maxWeight * 10)
    (hr1 : ∀ k ∈ K1, rulesOk cfg p.led false k = true) (hr2 : ∀ k ∈ K2, rulesOk cfg p.led true k = true) :
    Carried S (revalidate cfg p) K1 K2 := by
  unfold revalidate
  split
  · exact h
  · rw [if_neg (by omega)]
    obtain ⟨o1, o2⟩ := h.others
    have hk := rebuild_retains cfg S p K1 K2
      ⟨h.conf, h.sub1, h.sub2, h.robust, hr1, hr2, h.lists.nodup1, h.lists.nodup2, o1, o2, h.reoffer⟩
    exact ⟨rebuild_conf h.conf, ListsOK.of_good (rebuild_idxOK cfg p) (rebuild_valid cfg p), hk.1, hk.2, h.robust,
      by intro w hw; simp [rebuild] at hw⟩

/-- **a submission** to a re-validated pool adds at the end of a slice or changes nothing -/
theorem Carried.submit {cfg S v2 p set K1 K2} (h : Carried S p K1 K2) (hms : p.ms.isSome = true)
    (hv : Valid cfg p) (hi : IdxOK p) (hs : ∀ t ∈ set, Conf S v2 t) : Carried S (addSet cfg v2 p set).1 K1 K2 := by
  have ho := addSet_outcome cfg v2 p set hms
  have hv' := addSet_valid cfg S v2 p set hv hi h.conf hs
  have hc := ho.conf h.conf hs
  generalize addSet cfg v2 p set = r at ho hv' hc
  cases ho with
  | invalid _ => exact h
  | known _ _ => exact h
  | conflict p' _ _ h1 h2 _ _ h3 h4 h5 _ =>
    exact ⟨hc, h.lists.congr h1 h2, h1 ▸ h.sub1, h2 ▸ h.sub2, h3 ▸ h.robust, by rw [h4, h5]; exact h.reoffer⟩
  | added p' new _ h1 h2 _ _ _ _ _ _ h3 h4 h5 hms' hk =>
    -- the slice of the set's kind grows at its end, the other one stays
    refine ⟨hc, .of_good (hk hi) (hv' hms'), ?_, ?_, h3 ▸ h.robust, by rw [h4, h5]; exact h.reoffer⟩ <;> cases v2
    · exact (show p'.txns = p.txns ++ new from h1) ▸ h.sub1.trans (List.sublist_append_left _ _)
    · exact (show p'.txns = p.txns from h2) ▸ h.sub1
    · exact (show p'.v2txns = p.v2txns from h2) ▸ h.sub2
    · exact (show p'.v2txns = p.v2txns ++ new from h1) ▸ h.sub2.trans (List.sublist_append_left _ _)

/-! ## histories -/

/-- what is left of the tracked set after an operation: a reorg removes the members its applied
blocks confirm (and rewrites the inputs of the others that became confirmed); nothing else changes it -/
def track (K : List Txn × List Txn) : Op → List Txn × List Txn
  | .reorg _ app _ => carryApp app K
  | _ => K

/-- side conditions of an observation (any entry point that runs `revalidatePool`): the pool is
not full (no eviction for low fees) and the tip is in a rule regime in which the members are
allowed (`ok`, v1 signature era, v1/v2 height windows) -/
def ObsOK (cfg : Cfg) (p : Pool) (K1 K2 : List Txn) : Prop :=
  p.weight < cfg.maxWeight * 10 ∧ (∀ k ∈ K1, rulesOk cfg p.led false k = true) ∧
    (∀ k ∈ K2, rulesOk cfg p.led true k = true)

def OpSafe (cfg : Cfg) (p : Pool) (K1 K2 : List Txn) : Op → Prop
  | .reorg rev app _ =>
    RevPathOK p.led rev K1 K2 ∧ AppPathOK (rev.foldl Ledger.revert p.led) app K1 K2 ∧
    (∀ b, rev.head? = some b → ∀ w ∈ b.txns ++ b.v2txns, ∀ i ∈ w.inputs, i.elem ∉ spentOf (K1 ++ K2))
  | _ => ObsOK cfg p K1 K2

/-- the side conditions of a whole history, each operation judged in the state and for the set it meets -/
def Safe (cfg : Cfg) : Pool → List Txn × List Txn → List Op → Prop
  | _, _, [] => True
  | p, K, op :: ops => OpSafe cfg p K.1 K.2 op ∧ Safe cfg (step cfg p op) (track K op) ops

theorem outcome_lr {cfg v2 p set r} (ho : AddOutcome cfg v2 p set r) (h : p.lastReverted = [] ∧ p.lastRevertedV2 = []) :
    r.1.lastReverted = [] ∧ r.1.lastRevertedV2 = [] := by
  cases ho with
  | invalid _ => exact h
  | known _ _ => exact h
  | conflict p' _ _ _ _ _ _ _ h4 h5 _ => exact ⟨h4 ▸ h.1, h5 ▸ h.2⟩
  | added p' new _ _ _ _ _ _ _ _ _ _ h4 h5 _ _ => exact ⟨h4 ▸ h.1, h5 ▸ h.2⟩

theorem revalidate_lr {cfg : Cfg} {p : Pool} (h : LRInv p) :
    (revalidate cfg p).lastReverted = [] ∧ (revalidate cfg p).lastRevertedV2 = [] := by
  unfold revalidate
  split
  · rename_i hc; simp at hc; exact h hc.1
  · exact ⟨rfl, rfl⟩

theorem step_lrinv (cfg : Cfg) (p : Pool) (h : LRInv p) (op : Op) : LRInv (step cfg p op) :=
  step_keeps (X := fun q => q.lastReverted = [] ∧ q.lastRevertedV2 = []) p op (revalidate_lr h)
    fun _ _ _ ho _ => outcome_lr ho (revalidate_lr h)

theorem step_carried {cfg S p} {K : List Txn × List Txn} (hinv : InvV cfg S p) (h : Carried S p K.1 K.2)
    (op : Op) (hop : OpConf S op) (hs : OpSafe cfg p K.1 K.2 op) :
    Carried S (step cfg p op) (track K op).1 (track K op).2 := by
  obtain ⟨gc, gi, gv⟩ := revalidate_good hinv
  cases op with
  | reorg rev app flags => exact h.reorg rev app flags hs.1 hs.2.1 hop hs.2.2
  | query => exact h.observe hs.1 hs.2.1 hs.2.2
  | addV1 set => exact (h.observe hs.1 hs.2.1 hs.2.2).submit (revalidate_ms cfg p) gv gi hop
  | addV2 path set =>
    have h1 := h.observe hs.1 hs.2.1 hs.2.2
    simp only [step, addV2PoolTransactions, track]
    cases hr : rebase cfg set path with
    | none => exact h1
    | some set' => exact h1.submit (revalidate_ms cfg p) gv gi (rebase_conf set path set' hr hop)

/-- **any history**: the tracked set is carried through all of it -/
theorem run_carried {cfg S} : ∀ (ops : List Op) (p : Pool) (K : List Txn × List Txn),
    InvV cfg S p → Carried S p K.1 K.2 → (∀ op ∈ ops, OpConf S op) → Safe cfg p K ops →
    Carried S (run cfg p ops) (ops.foldl track K).1 (ops.foldl track K).2 ∧ InvV cfg S (run cfg p ops)
  | [], _, _, hi, h, _, _ => ⟨h, hi⟩
  | op :: ops, p, K, hi, h, hops, hs =>
    run_carried ops (step cfg p op) (track K op) (step_invV hi op (hops op (by simp)))
      (step_carried hi h op (hops op (by simp)) hs.1) (fun o ho => hops o (by simp [ho])) hs.2

/-! ## where self-valid sets come from -/

theorem Valid.robust {cfg : Cfg} {p : Pool} (h : Valid cfg p) : Robust p.led p.txns p.v2txns := by
  have h1 := h.v1; have h2 := h.v2
  rw [seqValid_split, Bool.and_eq_true] at h1 h2
  exact ⟨h1.2, h2.2⟩

theorem filter_mem_of_sublist {α} [DecidableEq α] {K L : List α} (hs : K.Sublist L) :
    L.Nodup → L.filter (fun x => decide (x ∈ K)) = K := by
  induction hs with
  | slnil => exact fun _ => rfl
  | @cons K L a hs ih =>
    intro hn
    rw [List.nodup_cons] at hn
    rw [List.filter_cons_of_neg (by simpa using fun hm => hn.1 (hs.subset hm))]
    exact ih hn.2
  | @cons_cons K L a hs ih =>
    intro hn
    rw [List.nodup_cons] at hn
    rw [List.filter_cons_of_pos (by simp)]
    congr 1
    refine (List.filter_congr fun x hx => ?_).trans (ih hn.2)
    have : x ≠ a := fun e => hn.1 (e ▸ hx)
    simp [this]

/-- **ancestor-closed sets are self-valid**: `K1 ⊆ v1 slice`, `K2 ⊆ v2 slice` such that every
pooled transaction creating an input of a member is itself a member.  Carrying the pool over (`seqInp_carry`) drops
the non-members; what they create, no member needs. -/
theorem robust_of_closed {cfg : Cfg} {p : Pool} (hv : Valid cfg p) (hi : IdxOK p) {K1 K2 : List Txn}
    (h1 : K1.Sublist p.txns) (h2 : K2.Sublist p.v2txns)
    (hc1 : ∀ c ∈ p.txns, ∀ e ∈ c.outputs, e ∈ spentOf (K1 ++ K2) → c ∈ K1)
    (hc2 : ∀ c ∈ p.v2txns, ∀ e ∈ c.outputs, e ∈ spentOf (K1 ++ K2) → c ∈ K2) :
    Robust p.led K1 K2 := by
  have hnd : ∀ {L : List Txn}, (L.map (·.id)).Nodup → L.Nodup := List.Pairwise.of_map _ fun _ _ h e => h (e ▸ rfl)
  have hin : ∀ (v : Bool), ∀ k ∈ K1 ++ K2, ∀ i ∈ k.inputs, Carries p.led p.led v (· ∉ spentOf (K1 ++ K2)) i i :=
    fun v k hk i hi => .of_transfer (fun _ h => h) (not_not_intro (mem_spentOf.2 ⟨k, hk, i, hi, rfl⟩))
  have := hv.robust.carry (fun c => decide (c ∈ K1)) (fun c => decide (c ∈ K2)) (fun i => i) (fun _ => rfl) _
    (fun k _ hk => hin false k (List.mem_append_left _ (of_decide_eq_true hk)))
    (fun k _ hk => hin true k (List.mem_append_right _ (of_decide_eq_true hk)))
    (fun c hc hk o ho hm => of_decide_eq_false hk (hc1 c hc o ho hm))
    (fun c hc hk o ho hm => of_decide_eq_false hk (hc2 c hc o ho hm))
  rwa [filter_mem_of_sublist h1 (hnd hi.nodup1), filter_mem_of_sublist h2 (hnd hi.nodup2), map_mapInputs_ident] at this

/-! ## bookkeeping for the statements in `Props/C05.lean` -/

theorem run_append (cfg : Cfg) (p : Pool) (a b : List Op) : run cfg p (a ++ b) = run cfg (run cfg p a) b :=
  List.foldl_append

/-- applied blocks of a history, in order -/
def appliedBlocks : List Op → List Blk
  | [] => []
  | .reorg _ app _ :: ops => app ++ appliedBlocks ops
  | _ :: ops => appliedBlocks ops

theorem carryApp_append : ∀ (a b : List Blk) (K : List Txn × List Txn), carryApp (a ++ b) K = carryApp b (carryApp a K)
  | [], _, _ => rfl
  | _ :: a, b, _ => carryApp_append a b _

theorem foldl_track : ∀ (ops : List Op) (K : List Txn × List Txn), ops.foldl track K = carryApp (appliedBlocks ops) K
  | [], _ => rfl
  | .reorg _ app _ :: ops, K => by rw [List.foldl_cons, foldl_track ops, appliedBlocks, carryApp_append]; rfl
  | .addV1 _ :: ops, K => foldl_track ops K
  | .addV2 _ _ :: ops, K => foldl_track ops K
  | .query :: ops, K => foldl_track ops K

theorem carryApp_ids2 : ∀ (app : List Blk) (K : List Txn × List Txn) (k : Txn), k ∈ K.2 →
    (∀ b ∈ app, k.id ∉ conf2 b) → ∃ k' ∈ (carryApp app K).2, k'.id = k.id
  | [], _, k, hk, _ => ⟨k, hk, rfl⟩
  | b :: bs, K, k, hk, hn => by
    have hm : mapInputs (confirmInp b.created) k ∈ carryA2 b K.2 := by
      unfold carryA2
      apply List.mem_map_of_mem
      rw [List.mem_filter]
      exact ⟨hk, by simpa [keepA2] using hn b (by simp)⟩
    obtain ⟨k', hk', e⟩ := carryApp_ids2 bs (carryA1 b K.1, carryA2 b K.2) _ hm (fun b' hb' => hn b' (by simp [hb']))
    exact ⟨k', hk', e⟩

theorem carryApp_ids1 : ∀ (app : List Blk) (K : List Txn × List Txn) (k : Txn), k ∈ K.1 →
    (∀ b ∈ app, k.id ∉ conf1 b) → k ∈ (carryApp app K).1
  | [], _, _, hk, _ => hk
  | b :: bs, K, k, hk, hn => by
    apply carryApp_ids1 bs (carryA1 b K.1, carryA2 b K.2) k ?_ (fun b' hb' => hn b' (by simp [hb']))
    unfold carryA1
    rw [List.mem_filter]
    exact ⟨hk, by simpa [keepA1] using hn b (by simp)⟩

/-- re-validating a valid, exactly indexed, non-full pool with nothing to re-offer gives the same
two slices (whatever the mid-state and the weight counter say, as long as no eviction is triggered) -/
theorem rebuild_same {cfg : Cfg} {S : Nat → Bool × List Nat × List Nat} {q p' : Pool}
    (hc : PoolConf S q) (hi : IdxOK q) (hv : Valid cfg q)
    (h1 : p'.txns = q.txns) (h2 : p'.v2txns = q.v2txns) (h3 : p'.led = q.led)
    (h4 : p'.lastReverted = []) (h5 : p'.lastRevertedV2 = []) :
    (rebuild cfg p').txns = q.txns ∧ (rebuild cfg p').v2txns = q.v2txns := by
  rw [← h1, ← h2]
  refine rebuild_keeps cfg p' ?_ ?_ ?_ ?_ ?_ ?_ ?_
  · rw [h1, h3]; exact hv.v1
  · rw [h1, h2, h3]; exact hv.v2
  · rw [h1]; exact hi.nodup1
  · rw [h2]; exact hi.nodup2
  · rw [h1, h2]; exact fun t ht u hu => Conf.kind_ne (hc.t1 t ht) (hc.t2 u hu)
  · rw [h4]; nofun
  · rw [h5]; nofun

end Verif.Pool
