/-
Helper lemmas for M10 (`Model/Sync.lean`): the validity invariant of the minimal manager under its
two entry points; monotonicity of the tip's work; the batch gate (`gateBatch_eq`: what an answer other
than `retry` has passed; `gateBatch_pre`: under `HashBinds`, a batch let through as validated is valid
below a valid parent); `Kept`: what the two entry points keep, every syncer event keeps; the history
sample; the convergence measure of the abstract gossip system.
-/
import Verif.Model.Sync

namespace Verif.Sync

/-! ## Validity -/

/-- `b` and all its ancestors pass `ValidateBlock` -/
inductive ValidTo (U : Univ) : Nat → Prop
  | gen : ValidTo U 0
  | step (b : Nat) : ValidTo U (U b).parent → (U b).body = true → ValidTo U b

/-- conventions of the block universe (what the harness guarantees when it declares blocks):
genesis is `0`, is valid and is its own parent; a block and the canonical block with the same
header hash name the same parent. -/
structure WF (U : Univ) : Prop where
  gen_body : (U 0).body = true
  gen_parent : (U 0).parent = 0
  cid_parent : ∀ b, (U (U b).cid).parent = (U b).parent

theorem ValidTo.body {U : Univ} (wf : WF U) {b : Nat} (h : ValidTo U b) : (U b).body = true := by
  cases h with
  | gen => exact wf.gen_body
  | step _ _ hb => exact hb

theorem ValidTo.parent {U : Univ} (wf : WF U) {b : Nat} (h : ValidTo U b) : ValidTo U (U b).parent := by
  cases h with
  | gen => rw [wf.gen_parent]; exact .gen
  | step _ hp _ => exact hp

/-- blocks stored with a supplement are valid *provided their ancestry is*: a batch that was
pre-validated on a bogus state hangs below a block that is not valid, and can therefore never be
reached by a successful reorg. -/
def SuppInv (U : Univ) (supp : List Nat) : Prop :=
  ∀ b ∈ supp, ValidTo U (U b).parent → (U b).body = true

structure Inv (U : Univ) (n : Node) : Prop where
  best : ∀ b ∈ n.best, ValidTo U b
  supp : SuppInv U n.supp

theorem Inv.init {U : Univ} (wf : WF U) : Inv U Node.init := by
  constructor
  · intro b hb; simp [Node.init] at hb; subst hb; exact .gen
  · intro b hb _; simp [Node.init] at hb; subst hb; exact wf.gen_body

theorem applyAll_spec (U : Univ) (l : List Nat) : ∀ (supp : List Nat), SuppInv U supp →
    SuppInv U (applyAll U supp l).1 ∧ ((applyAll U supp l).2 = true → ∀ b ∈ l, b ∈ (applyAll U supp l).1)
      ∧ (∀ b ∈ supp, b ∈ (applyAll U supp l).1) := by
  intro supp
  -- the cases of `applyAll`: no block left; `b` already stored; `b` valid and stored; `b` invalid
  fun_induction applyAll U supp l with
  | case1 supp => exact fun h => ⟨h, by simp, fun _ hx => hx⟩
  | case2 supp b bs hc ih =>
    intro h
    obtain ⟨i1, i2, i3⟩ := ih h
    exact ⟨i1, fun hok x hx => (List.mem_cons.mp hx).elim (· ▸ i3 _ (by simpa using hc)) (i2 hok x), i3⟩
  | case3 supp b bs hc hb ih =>
    intro h
    obtain ⟨i1, i2, i3⟩ := ih fun x hx hv => (List.mem_cons.mp hx).elim (· ▸ hb) (h x · hv)
    exact ⟨i1, fun hok x hx => (List.mem_cons.mp hx).elim (· ▸ i3 _ (List.mem_cons_self ..)) (i2 hok x),
      fun x hx => i3 x (List.mem_cons_of_mem _ hx)⟩
  | case4 supp b bs hc hb => exact fun h => ⟨h, by simp, fun _ hx => hx⟩

theorem mem_applyAll {U : Univ} {s l : List Nat} {x : Nat} : x ∈ (applyAll U s l).1 → x ∈ s ∨ x ∈ l := by
  fun_induction applyAll U s l with
  | case1 | case4 => exact .inl
  | case2 _ _ _ _ ih => exact fun h => (ih h).imp_right (List.mem_cons_of_mem _)
  | case3 _ b _ _ _ ih =>
    exact fun h => (ih h).elim (fun h => (List.mem_cons.mp h).elim (· ▸ .inr (List.mem_cons_self ..)) .inl)
      (.inr ∘ List.mem_cons_of_mem _)

/-- `l` (newest first) leads from `b` down to just above `f` along parent pointers -/
inductive Down (U : Univ) (f : Nat) : Nat → List Nat → Prop
  | nil : Down U f f []
  | cons {b : Nat} {l : List Nat} : Down U f (U b).parent l → Down U f b (b :: l)

theorem climb_down (U : Univ) (n : Node) : ∀ (k b : Nat) (up : List Nat), climb U n k b = some up →
    ∃ f, f ∈ n.best ∧ Down U f b up := by
  intro k
  induction k with
  | zero =>
    intro b up h
    simp only [climb] at h
    split at h
    · rename_i hb; simp at h; subst h; exact ⟨b, by simpa using hb, .nil⟩
    · simp at h
  | succ k ih =>
    intro b up h
    simp only [climb] at h
    split at h
    · rename_i hb; simp at h; subst h; exact ⟨b, by simpa using hb, .nil⟩
    · split at h
      · simp at h
      · simp only [Option.map_eq_some_iff] at h
        obtain ⟨l, hl, rfl⟩ := h
        obtain ⟨f, hf, hd⟩ := ih _ _ hl
        exact ⟨f, hf, .cons hd⟩

theorem Down.fork {U : Univ} {f b : Nat} {up : List Nat} (h : Down U f b up) :
    forkOf U b up = f := by
  unfold forkOf
  induction h with
  | nil => rfl
  | @cons b l hd ih =>
    cases l with
    | nil => cases hd; simp
    | cons x xs =>
      rw [List.getLast?_cons_cons]
      cases hgl : (x :: xs).getLast? with
      | none => simp at hgl
      | some y => simpa [hgl] using ih

theorem Down.head {U : Univ} {f b : Nat} {up : List Nat} (h : Down U f b up) (x : Nat) :
    (up ++ [f]).headD x = b := by
  cases h <;> simp

theorem Down.valid {U : Univ} {f b : Nat} {up : List Nat} (h : Down U f b up) (hf : ValidTo U f)
    (hs : ∀ x ∈ up, ValidTo U (U x).parent → (U x).body = true) :
    ValidTo U b ∧ ∀ x ∈ up, ValidTo U x := by
  induction h with
  | nil => exact ⟨hf, by simp⟩
  | @cons b l hd ih =>
    have ih' := ih (fun x hx => hs x (List.mem_cons_of_mem _ hx))
    have hb : ValidTo U b := .step b ih'.1 (hs b (List.mem_cons_self ..) ih'.1)
    refine ⟨hb, ?_⟩
    intro x hx
    rcases List.mem_cons.mp hx with rfl | hx
    · exact hb
    · exact ih'.2 x hx

theorem mem_suffixFrom {best : List Nat} {f x : Nat} (h : x ∈ suffixFrom best f) : x ∈ best :=
  (List.dropWhile_sublist _).subset h

theorem head_suffixFrom {best : List Nat} {f : Nat} (h : f ∈ best) (d : Nat) :
    (suffixFrom best f).headD d = f := by
  induction best with
  | nil => simp at h
  | cons a t ih =>
    by_cases ha : a = f
    · subst ha; simp [suffixFrom, List.dropWhile]
    · have e : suffixFrom (a :: t) f = suffixFrom t f := by simp [suffixFrom, ha]
      rw [e]; exact ih ((List.mem_cons.mp h).resolve_left (Ne.symm ha))

theorem reorgTo_inv {U : Univ} (n : Node) (t : Nat) (h : Inv U n) : Inv U (reorgTo U n t).1 := by
  unfold reorgTo
  split
  · exact h
  · rename_i up hup
    obtain ⟨f, hf, hd⟩ := climb_down U n _ _ _ hup
    have hsp := applyAll_spec U up.reverse n.supp h.supp
    rw [hd.fork]
    split
    · rename_i hok
      constructor
      · intro x hx
        simp only [List.mem_append] at hx
        rcases hx with hx | hx
        · have := hd.valid (h.best f hf) (fun y hy => hsp.1 y (hsp.2.1 hok y (by simpa using hy)))
          exact this.2 x hx
        · exact h.best x (mem_suffixFrom hx)
      · exact hsp.1
    · exact ⟨h.best, hsp.1⟩

/-! ## The two entry points of the manager

Both store the batch, which leaves the best chain alone, and then reorganise if the batch's last
block is sufficiently heavier than the tip. -/

theorem storeLoop_best (U : Univ) (bs : List Nat) : ∀ (n : Node) (cs : Nat),
    (storeLoop U n cs bs).1.best = n.best ∧ (storeLoop U n cs bs).1.supp = n.supp := by
  induction bs with
  | nil => intro n cs; exact ⟨rfl, rfl⟩
  | cons b bs ih =>
    intro n cs
    -- whichever test ends the iteration, the value is the same
    simp only [storeLoop, apply_ite Prod.fst, apply_ite Node.best, apply_ite Node.supp, ih n b,
      ih { n with known := b :: n.known } b, ite_self, and_self]

theorem storeValidated_best (U : Univ) (bs : List Nat) : ∀ (n : Node), (storeValidated U n bs).1.best = n.best := by
  induction bs with
  | nil => intro n; rfl
  | cons b bs ih =>
    intro n
    simp only [storeValidated, apply_ite Prod.fst, apply_ite Node.best, ih, ite_self]

/-- the shared tail of `AddBlocks` (manager.go:284-292) and `AddValidatedV2Blocks` (manager.go:333-341):
a reorg to `cs` if it is sufficiently heavier than the tip -/
def reorgIf (U : Univ) (n : Node) (cs : Nat) : Node × Option AddErr :=
  if heavier U cs n.tip then ((reorgTo U n cs).1, if (reorgTo U n cs).2 then none else some .reorg)
  else (n, none)

theorem addBlocks_cons (U : Univ) (n : Node) (b : Nat) (bs : List Nat) :
    addBlocks U n (b :: bs) =
      match storeLoop U n n.tip (b :: bs) with
      | (n', _, some e) => (n', some e)
      | (n', cs, none) => reorgIf U n' cs := rfl

theorem addValidated_cons (U : Univ) (n : Node) (b0 : Nat) (rest : List Nat) :
    addValidated U n (b0 :: rest) =
      if !n.known.contains (U b0).parent then (n, some .missingParent)
      else if !(storeValidated U n (b0 :: rest)).2 then ((storeValidated U n (b0 :: rest)).1, some .notV2)
      else reorgIf U (storeValidated U n (b0 :: rest)).1 ((b0 :: rest).getLastD b0) := rfl

theorem addBlocks_elim {P : Node → Prop} (U : Univ) (n : Node) (bs : List Nat)
    (h0 : P (storeLoop U n n.tip bs).1)
    (h1 : ∀ cs, P (reorgIf U (storeLoop U n n.tip bs).1 cs).1) : P (addBlocks U n bs).1 := by
  cases bs with
  | nil => exact h0
  | cons b bs =>
    rw [addBlocks_cons]
    generalize storeLoop U n n.tip (b :: bs) = s at h0 h1
    obtain ⟨n', cs, _ | e⟩ := s
    · exact h1 cs
    · exact h0

theorem addValidated_elim {P : Node → Prop} (U : Univ) (n : Node) (bs : List Nat) (h0 : P n)
    (h1 : P (storeValidated U n bs).1)
    (h2 : ∀ cs, P (reorgIf U (storeValidated U n bs).1 cs).1) : P (addValidated U n bs).1 := by
  cases bs with
  | nil => exact h0
  | cons b0 rest =>
    rw [addValidated_cons]
    split
    · exact h0
    · split
      · exact h1
      · exact h2 _

theorem reorgIf_inv {U : Univ} {n : Node} (cs : Nat) (h : Inv U n) : Inv U (reorgIf U n cs).1 := by
  unfold reorgIf
  split
  · exact reorgTo_inv _ _ h
  · exact h

theorem addBlocks_inv {U : Univ} (n : Node) (bs : List Nat) (h : Inv U n) : Inv U (addBlocks U n bs).1 := by
  have hb := storeLoop_best U bs n n.tip
  have hs : Inv U (storeLoop U n n.tip bs).1 := ⟨hb.1 ▸ h.best, hb.2 ▸ h.supp⟩
  exact addBlocks_elim U n bs hs fun cs => reorgIf_inv cs hs

theorem storeValidated_inv {U : Univ} (bs : List Nat) : ∀ (n : Node), Inv U n →
    (∀ b ∈ bs, ValidTo U (U b).parent → (U b).body = true) → Inv U (storeValidated U n bs).1 := by
  induction bs with
  | nil => intro n h _; exact h
  | cons b bs ih =>
    intro n h hb
    unfold storeValidated
    split
    · exact h
    · apply ih
      · constructor
        · exact h.best
        · intro x hx hv
          rcases List.mem_cons.mp hx with rfl | hx
          · exact hb _ (List.mem_cons_self ..) hv
          · exact h.supp x hx hv
      · exact fun x hx => hb x (List.mem_cons_of_mem _ hx)

theorem addValidated_inv {U : Univ} (n : Node) (bs : List Nat) (h : Inv U n)
    (hb : ∀ b ∈ bs, ValidTo U (U b).parent → (U b).body = true) : Inv U (addValidated U n bs).1 := by
  have hs := storeValidated_inv bs n h hb
  exact addValidated_elim U n bs h hs fun cs => reorgIf_inv cs hs

/-- the validation loop of the checkpoint branch establishes the pre-validation contract: each
block is valid provided its ancestry is — *if* validity of the checkpoint block's ancestry
forces the supplied state to be the genuine one (hash injectivity, `HashBinds`). -/
theorem validateChain_spec {U : Univ} (wf : WF U) (g : Bool) (bs : List Nat) : ∀ (cs : Nat),
    validateChain U g cs bs = true → (ValidTo U (U cs).cid → g = true) →
    ∀ b ∈ bs, ValidTo U (U b).parent → (U b).body = true := by
  induction bs with
  | nil => intro _ _ _ b hb; simp at hb
  | cons a t ih =>
    intro cs hv hg b hb hp
    simp only [validateChain, Bool.and_eq_true, beq_iff_eq, Bool.or_eq_true, Bool.not_eq_eq_eq_not,
      Bool.not_true] at hv
    obtain ⟨⟨⟨hpar, _⟩, hbody⟩, hrest⟩ := hv
    rcases List.mem_cons.mp hb with rfl | hb
    · have := hg (hpar ▸ hp)
      rcases hbody with hbody | hbody
      · rw [this] at hbody; cases hbody
      · exact hbody
    · refine ih a hrest ?_ b hb hp
      intro hva
      have := hva.parent wf
      rw [wf.cid_parent, hpar] at this
      exact hg this

/-! ## The tip only ever moves to a sufficiently heavier block -/

def TipStep (U : Univ) (n n' : Node) : Prop := n'.tip = n.tip ∨ heavier U n'.tip n.tip = true

theorem TipStep.of_best {U : Univ} {n n' : Node} (h : n'.best = n.best) : TipStep U n n' :=
  .inl (congrArg (List.headD · 0) h)

theorem heavier_iff {U : Univ} {a b : Nat} : heavier U a b = true ↔ (U a).work > (U b).work + (U b).diff / 5 :=
  decide_eq_true_iff

theorem heavier_work {U : Univ} {a b : Nat} (h : heavier U a b = true) : (U b).work < (U a).work := by
  have := heavier_iff.1 h
  omega

theorem TipStep.work {U : Univ} {n n' : Node} (h : TipStep U n n') : (U n.tip).work ≤ (U n'.tip).work := by
  rcases h with h | h
  · rw [h]; exact Nat.le_refl _
  · exact Nat.le_of_lt (heavier_work h)

theorem reorgTo_tip (U : Univ) (n : Node) (t : Nat) :
    ((reorgTo U n t).2 = true → (reorgTo U n t).1.tip = t) ∧
    ((reorgTo U n t).2 = false → (reorgTo U n t).1.best = n.best) := by
  unfold reorgTo
  split
  · simp
  · rename_i up hup
    obtain ⟨f, hf, hd⟩ := climb_down U n _ _ _ hup
    rw [hd.fork]
    split
    · refine ⟨fun _ => ?_, by simp⟩
      simp only [Node.tip]
      cases hd with
      | nil => simpa using head_suffixFrom hf 0
      | cons _ => simp
    · simp

theorem reorgIf_tipStep {U : Univ} {n n' : Node} (hb : n'.best = n.best) (cs : Nat) :
    TipStep U n (reorgIf U n' cs).1 := by
  have ht := reorgTo_tip U n' cs
  have htip : n'.tip = n.tip := congrArg (List.headD · 0) hb
  unfold reorgIf
  split
  · rename_i hh
    cases hok : (reorgTo U n' cs).2 with
    | true => exact .inr (by rw [ht.1 hok, ← htip]; exact hh)
    | false => exact .of_best ((ht.2 hok).trans hb)
  · exact .of_best hb

theorem addBlocks_tip (U : Univ) (n : Node) (bs : List Nat) : TipStep U n (addBlocks U n bs).1 :=
  have hb := (storeLoop_best U bs n n.tip).1
  addBlocks_elim U n bs (.of_best hb) (reorgIf_tipStep hb)

theorem addValidated_tip (U : Univ) (n : Node) (bs : List Nat) : TipStep U n (addValidated U n bs).1 :=
  have hb := storeValidated_best U bs n
  addValidated_elim U n bs (.inl rfl) (.of_best hb) (reorgIf_tipStep hb)

theorem stepBatch_tip (U : Univ) (cfg : Cfg) (n : Node) (q : Req) (r : BResp) :
    TipStep U n (stepBatch U cfg n q r).1 := by
  unfold stepBatch
  split
  · exact .inl rfl
  · exact .inl rfl
  · rename_i bs pre _
    cases pre
    · exact addBlocks_tip U n bs
    · exact addValidated_tip U n bs

theorem ite_fst_or {α β : Type} {c : Prop} [Decidable c] {n x : α} {d : β} {z : α × β}
    (h : z.1 = n ∨ z.1 = x) : (if c then (n, d) else z).1 = n ∨ (if c then (n, d) else z).1 = x := by
  by_cases hc : c
  · exact .inl (by rw [if_pos hc])
  · rw [if_neg hc]; exact h

theorem stepOutline_fst (U : Univ) (n : Node) (b : Nat) (m : Missing) :
    (stepOutline U n b m).1 = n ∨ (stepOutline U n b m).1 = (addBlocks U n [b]).1 := by
  unfold stepOutline
  refine ite_fst_or (ite_fst_or (ite_fst_or (ite_fst_or ?_)))
  cases m
  · exact .inr rfl
  · exact .inl rfl
  · exact .inl rfl
  · exact .inr rfl

/-! ## The batch gate -/

theorem ite_eq_of_ne_left {α : Type} {c : Prop} [Decidable c] {x y z : α} (hx : x ≠ y) :
    (if c then x else z) = y ↔ ¬c ∧ z = y := by
  by_cases hc : c <;> simp [hc, hx]

theorem ite_eq_of_ne_right {α : Type} {c : Prop} [Decidable c] {x y z : α} (hz : z ≠ y) :
    (if c then x else z) = y ↔ c ∧ x = y := by
  by_cases hc : c <;> simp [hc, hz]

/-- **what `workFn` returns**: every test that fails asks for a retry, so an answer `y` other than
`retry` passed them all; below the require height that is `ok` on the `AddBlocks` path, at or above
it the validation loop decides between `ok` on the `AddValidatedV2Blocks` path and `ban`. -/
theorem gateBatch_eq {U : Univ} {cfg : Cfg} {q : Req} {r : BResp} {y : BDec} (hy : y ≠ .retry) :
    gateBatch U cfg q r = y ↔
      (q.baseHeight < cfg.require ∧ ∃ bs, r.blocks = some bs ∧ bs.length = q.hdrs.length ∧
          bs.map (fun b => (U b).cid) = q.hdrs.map (fun b => (U b).cid) ∧ .ok bs false = y) ∨
      (cfg.require ≤ q.baseHeight ∧ ∃ cp, r.cp = some cp ∧ cp.isV2 = true ∧ cp.onePayout = true ∧ cp.noV1 = true ∧
          sameId U cp.blk q.base = true ∧ cp.commitOk = true ∧ (U cp.blk).orphan = true ∧
          ∃ bs, r.blocks = some bs ∧ bs.length = q.hdrs.length ∧
            sameId U (bs.getLastD 0) (q.hdrs.getLastD 0) = true ∧
            (if validateChain U cp.genuine cp.blk bs then .ok bs true else .ban) = y) := by
  have hy' := hy.symm
  -- every failed test of `gateBatch` returns `retry`: `ite_eq_of_ne_left/right` let `simp` peel
  -- one such `if` at a time
  by_cases hh : cfg.require ≤ q.baseHeight
  · rcases r with ⟨_ | cp, _ | bs⟩ <;>
      simp [gateBatch, hh, Nat.not_lt.mpr hh, ite_eq_of_ne_left, ite_eq_of_ne_right, hy', and_assoc]
  · rcases r with ⟨cp?, _ | bs⟩ <;>
      simp [gateBatch, hh, Nat.not_le.mp hh, ite_eq_of_ne_right, hy']

theorem gateBatch_ok_true {U : Univ} (cfg : Cfg) (q : Req) (r : BResp) (bs : List Nat)
    (h : gateBatch U cfg q r = .ok bs true) :
    q.baseHeight ≥ cfg.require ∧ ∃ cp, r.cp = some cp ∧ cp.isV2 = true ∧ cp.onePayout = true ∧ cp.noV1 = true ∧
      sameId U cp.blk q.base = true ∧ cp.commitOk = true ∧ (U cp.blk).orphan = true ∧ r.blocks = some bs ∧
      bs.length = q.hdrs.length ∧ sameId U (bs.getLastD 0) (q.hdrs.getLastD 0) = true ∧
      validateChain U cp.genuine cp.blk bs = true := by
  obtain ⟨_, _, _, _, _, e⟩ | ⟨hh, cp, hcp, h1, h2, h3, h4, h5, h6, bs', hbl, hl, h7, e⟩ :=
    (gateBatch_eq (y := .ok bs true) nofun).mp h
  · cases e
  · split at e
    · rename_i hv
      cases e
      exact ⟨hh, cp, hcp, h1, h2, h3, h4, h5, h6, hbl, hl, h7, hv⟩
    · cases e

/-- no block that passed the validation loop of the checkpoint branch is from the future -/
theorem validateChain_nofuture {U : Univ} (g : Bool) (bs : List Nat) : ∀ (cs : Nat),
    validateChain U g cs bs = true → ∀ b ∈ bs, (U b).future = false := by
  induction bs with
  | nil => intro _ _ b hb; simp at hb
  | cons a t ih =>
    intro cs hv b hb
    simp only [validateChain, Bool.and_eq_true, beq_iff_eq, Bool.or_eq_true, Bool.not_eq_eq_eq_not,
      Bool.not_true] at hv
    obtain ⟨⟨⟨_, hfut⟩, _⟩, hrest⟩ := hv
    rcases List.mem_cons.mp hb with rfl | hb
    · exact hfut
    · exact ih a hrest b hb

/-- hash injectivity, as the syncer relies on it: if the block a checkpoint answer carries has
the ID of a block whose whole ancestry is valid, and its commitment matches the supplied state,
then the supplied state is the genuine one. -/
def HashBinds (U : Univ) : Prop :=
  ∀ cp : CpResp, cp.commitOk = true → ValidTo U (U cp.blk).cid → cp.genuine = true

theorem gateBatch_pre {U : Univ} (wf : WF U) (hb : HashBinds U) (cfg : Cfg) (q : Req) (r : BResp)
    (bs : List Nat) (h : gateBatch U cfg q r = .ok bs true) :
    ∀ b ∈ bs, ValidTo U (U b).parent → (U b).body = true := by
  obtain ⟨_, cp, _, _, _, _, _, hc, _, _, _, _, hv⟩ := gateBatch_ok_true cfg q r bs h
  exact validateChain_spec wf cp.genuine bs cp.blk hv (hb cp hc)

/-! ## Every event reaches the node through the two entry points -/

/-- a property of the node that the manager keeps however the syncer calls it: `AddBlocks` with any
batch, `AddValidatedV2Blocks` with a batch the gate let through -/
structure Kept (U : Univ) (cfg : Cfg) (P : Node → Prop) : Prop where
  addBlocks : ∀ n bs, P n → P (addBlocks U n bs).1
  addValidated : ∀ n q r bs, gateBatch U cfg q r = .ok bs true → P n → P (addValidated U n bs).1

section Kept
variable {U : Univ} {cfg : Cfg} {P : Node → Prop} (k : Kept U cfg P)
include k

theorem stepBatch_kept (n : Node) (q : Req) (r : BResp) (h : P n) : P (stepBatch U cfg n q r).1 := by
  unfold stepBatch
  split
  · exact h
  · exact h
  · rename_i bs pre hg
    cases pre
    · exact k.addBlocks n bs h
    · exact k.addValidated n q r bs hg h

theorem runBatches_kept (qs : List Req) : ∀ (n : Node) (rs : List BResp), P n → P (runBatches U cfg n qs rs).1 := by
  induction qs with
  | nil => intro n rs h; exact h
  | cons q qs ih =>
    intro n rs h
    cases rs with
    | nil => exact h
    | cons r rs =>
      simp only [runBatches]
      split
      · exact ih _ rs (stepBatch_kept k n q r h)
      · exact stepBatch_kept k n q r h

theorem step_kept (n : Node) (e : Ev) (h : P n) : P (step U cfg n e).1 := by
  cases e with
  | sync hs bs =>
    simp only [step, stepSync]
    split
    · exact h
    · exact h
    · exact runBatches_kept k _ n bs h
  | batch q r => exact stepBatch_kept k n q r h
  | relayHeader x => exact h
  | relayOutline b m =>
    rcases stepOutline_fst U n b m with e | e <;> simp only [step, e]
    · exact h
    · exact k.addBlocks n [b] h
  | relayTxns _ _ _ _ => exact h

theorem run_kept (es : List Ev) : ∀ n : Node, P n → P (run U cfg n es) := by
  induction es with
  | nil => intro n h; exact h
  | cons e es ih => intro n h; exact ih _ (step_kept k n e h)

end Kept

theorem inv_kept {U : Univ} (wf : WF U) (hb : HashBinds U) (cfg : Cfg) : Kept U cfg (Inv U) :=
  ⟨addBlocks_inv, fun n q r bs hg h => addValidated_inv n bs h (gateBatch_pre wf hb cfg q r bs hg)⟩

theorem run_inv {U : Univ} (wf : WF U) (hb : HashBinds U) (cfg : Cfg) (es : List Ev) :
    ∀ n : Node, Inv U n → Inv U (run U cfg n es) :=
  run_kept (inv_kept wf hb cfg) es

theorem work_kept (U : Univ) (cfg : Cfg) (w : Nat) : Kept U cfg (fun n => w ≤ (U n.tip).work) :=
  ⟨fun n bs h => Nat.le_trans h (addBlocks_tip U n bs).work,
   fun n _ _ bs _ h => Nat.le_trans h (addValidated_tip U n bs).work⟩

/-! ## History sample -/

theorem histOffset_31 : histOffset 31 = 8388615 := by decide

theorem getD_pred_length (best : List Nat) (hne : best ≠ []) :
    best.getD (best.length - 1) 0 = best.getLast hne := by
  have hl : best.length - 1 < best.length := by
    cases best with
    | nil => exact absurd rfl hne
    | cons a t => simp
  rw [List.getD_eq_getElem?_getD, List.getElem?_eq_getElem hl, List.getLast_eq_getElem]
  rfl

/-- as long as the chain is not longer than the sample reaches (`histOffset 31 = 7 + 2^23` blocks
below the tip), the sample's last entry is the chain's last block -/
theorem last_mem_history (best : List Nat) (hne : best ≠ []) (hlen : best.length ≤ histOffset 31 + 1) :
    best.getLast hne ∈ history best := by
  unfold history
  rw [List.mem_map]
  refine ⟨31, by simp, ?_⟩
  rw [← getD_pred_length best hne]
  congr 1
  omega

theorem mem_of_mem_history (best : List Nat) (hne : best ≠ []) {x : Nat} (h : x ∈ history best) : x ∈ best := by
  unfold history at h
  rw [List.mem_map] at h
  obtain ⟨i, _, rfl⟩ := h
  have hl : min (histOffset i) (best.length - 1) < best.length := by
    cases best with
    | nil => exact absurd rfl hne
    | cons a t => simp; omega
  rw [List.getD_eq_getElem?_getD, List.getElem?_eq_getElem hl]
  exact List.getElem_mem hl

/-! ## Gossip: the convergence measure -/

section Gossip
variable (U : Univ)

theorem heavier_asymm {a b : Nat} (h : heavier U a b = true) : heavier U b a = false := by
  have := heavier_iff.1 h
  rw [← Bool.not_eq_true, heavier_iff]
  omega

theorem heavier_irrefl (a : Nat) : heavier U a a = false := by
  simp only [heavier, decide_eq_false_iff_not]; omega

def Good (c N : Nat) (σ : Nat → Nat) : Prop := ∀ i, i < N → σ i ≠ c → heavier U c (σ i) = true

theorem pull_good {c N : Nat} {σ : Nat → Nat} (hg : Good U c N σ) (e : Nat × Nat) (he : e.2 < N) :
    Good U c N (pull U σ e) := by
  intro i hi hne
  unfold pull at *
  split at hne
  · rename_i hc; rw [if_pos hc]; exact hg _ he hne
  · rename_i hc; rw [if_neg hc]; exact hg _ hi hne

theorem pull_stay {c N : Nat} {σ : Nat → Nat} (hg : Good U c N σ) (e : Nat × Nat) (he : e.2 < N)
    {i : Nat} (hc : σ i = c) : pull U σ e i = c := by
  unfold pull
  split
  · rename_i h
    obtain ⟨rfl, hh⟩ := h
    rw [hc] at hh
    by_cases h2 : σ e.2 = c
    · exact h2
    · have := heavier_asymm U (hg _ he h2)
      rw [this] at hh; cases hh
  · exact hc

theorem pull_move {c N : Nat} {σ : Nat → Nat} (hg : Good U c N σ) {a b : Nat} (hb : b < N)
    (ha : σ a = c) (hnb : σ b ≠ c) : pull U σ (b, a) b = c := by
  unfold pull
  have := hg b hb hnb
  simp [ha, this]

def cnt (c N : Nat) (σ : Nat → Nat) : Nat := ((List.range N).filter (fun i => σ i != c)).length

theorem off_filter {c N : Nat} {σ σ' : Nat → Nat} (h : ∀ i, i < N → σ i = c → σ' i = c) :
    (List.range N).filter (fun i => σ' i != c) =
      ((List.range N).filter (fun i => σ i != c)).filter (fun i => σ' i != c) := by
  rw [List.filter_filter]
  apply List.filter_congr
  intro i hi
  have := h i (List.mem_range.mp hi)
  by_cases hc : σ i = c <;> simp [hc, this]

theorem cnt_lt {c N : Nat} {σ σ' : Nat → Nat} (h : ∀ i, i < N → σ i = c → σ' i = c)
    (b : Nat) (hb : b < N) (h1 : σ b ≠ c) (h2 : σ' b = c) : cnt c N σ' < cnt c N σ := by
  unfold cnt
  rw [off_filter h]
  exact List.length_filter_lt_length_iff_exists.mpr ⟨b, by simpa using ⟨hb, h1⟩, by simpa using h2⟩

theorem cnt_zero {c N : Nat} {σ : Nat → Nat} (h : cnt c N σ = 0) : ∀ i, i < N → σ i = c := by
  intro i hi
  unfold cnt at h
  have := List.eq_nil_of_length_eq_zero h
  rw [List.filter_eq_nil_iff] at this
  have := this i (by simpa using hi)
  simpa using this

theorem cnt_pos {c N : Nat} {σ : Nat → Nat} (h : 0 < cnt c N σ) : ∃ i, i < N ∧ σ i ≠ c := by
  unfold cnt at h
  obtain ⟨x, hx⟩ := List.exists_mem_of_length_pos h
  rw [List.mem_filter] at hx
  exact ⟨x, by simpa using hx.1, by simpa using hx.2⟩

/-- `i` is reachable from `m` along "pulls from" edges inside `{0..N-1}` -/
inductive Reach (adj : Nat → Nat → Prop) (N m : Nat) : Nat → Prop
  | base : Reach adj N m m
  | step {a b : Nat} : Reach adj N m a → a < N → b < N → adj b a → Reach adj N m b

theorem Reach.boundary {adj : Nat → Nat → Prop} {N m i c : Nat} {σ : Nat → Nat}
    (h : Reach adj N m i) (hm : σ m = c) (hi : σ i ≠ c) :
    ∃ a b, a < N ∧ b < N ∧ adj b a ∧ σ a = c ∧ σ b ≠ c := by
  induction h with
  | base => exact absurd hm hi
  | @step a b _ ha hb hadj ih =>
    by_cases hac : σ a = c
    · exact ⟨a, b, ha, hb, hadj, hac, hi⟩
    · exact ih hac

def InRange (N : Nat) (sched : Nat → Nat × Nat) : Prop := ∀ k, (sched k).1 < N ∧ (sched k).2 < N

def Fair (adj : Nat → Nat → Prop) (sched : Nat → Nat × Nat) : Prop :=
  ∀ i j, adj i j → ∀ k, ∃ k', k ≤ k' ∧ sched k' = (i, j)

variable {c N : Nat} {σ0 : Nat → Nat} {sched : Nat → Nat × Nat}

theorem run_good (hg : Good U c N σ0) (hr : InRange N sched) : ∀ k, Good U c N (runSched U σ0 sched k) := by
  intro k
  induction k with
  | zero => exact hg
  | succ k ih => exact pull_good U ih _ (hr k).2

theorem run_stay (hg : Good U c N σ0) (hr : InRange N sched) {i k k' : Nat} (hk : k ≤ k')
    (h : runSched U σ0 sched k i = c) : runSched U σ0 sched k' i = c := by
  induction hk with
  | refl => exact h
  | @step k' _ ih => exact pull_stay U (run_good U hg hr k') _ (hr k').2 ih

theorem converge_measure {adj : Nat → Nat → Prop} {m : Nat} (hg : Good U c N σ0) (hr : InRange N sched)
    (hm : σ0 m = c) (hconn : ∀ i, i < N → Reach adj N m i) (hfair : Fair adj sched) :
    ∀ n k, cnt c N (runSched U σ0 sched k) ≤ n → ∃ K, k ≤ K ∧ cnt c N (runSched U σ0 sched K) = 0 := by
  intro n
  induction n with
  | zero => intro k h; exact ⟨k, Nat.le_refl _, Nat.le_zero.mp h⟩
  | succ n ih =>
    intro k h
    by_cases hle : cnt c N (runSched U σ0 sched k) ≤ n
    · exact ih k hle
    · have hpos : 0 < cnt c N (runSched U σ0 sched k) := by omega
      obtain ⟨i, hi, hne⟩ := cnt_pos hpos
      have hmk : runSched U σ0 sched k m = c := run_stay U hg hr (Nat.zero_le k) hm
      obtain ⟨a, b, ha, hb, hadj, hac, hbc⟩ := (hconn i hi).boundary hmk hne
      obtain ⟨k', hk', hs⟩ := hfair b a hadj k
      -- after the scheduled pull, `b` is on `c`: it was already, or it moves now
      have hstep : runSched U σ0 sched (k' + 1) b = c := by
        by_cases hb' : runSched U σ0 sched k' b = c
        · exact run_stay U hg hr (Nat.le_succ k') hb'
        · show pull U (runSched U σ0 sched k') (sched k') b = c
          rw [hs]
          exact pull_move U (run_good U hg hr k') hb (run_stay U hg hr hk' hac) hb'
      have : cnt c N (runSched U σ0 sched (k' + 1)) < cnt c N (runSched U σ0 sched k) :=
        cnt_lt (fun j _ hj => run_stay U hg hr (Nat.le_succ_of_le hk') hj) b hb hbc hstep
      obtain ⟨K, hK, hz⟩ := ih (k' + 1) (by omega)
      exact ⟨K, by omega, hz⟩

end Gossip

end Verif.Sync
