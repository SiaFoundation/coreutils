/-
Lemmas for the listener registry: with fresh keys the Go map behaves like the list of live
registrations.
-/
import Verif.Model.Listeners

namespace Verif.Listeners

/-- every registration of the history is handed a key that was never handed out before -/
def Fresh : List Nat → List Op → Prop
  | _, [] => True
  | used, .reg k _ :: ops => k ∉ used ∧ Fresh (k :: used) ops
  | used, .cancel _ :: ops => Fresh used ops

theorem Fresh.append {pre rest : List Op} : ∀ {used : List Nat}, Fresh used (pre ++ rest) →
    Fresh ((regKeys pre).reverse ++ used) rest := by
  induction pre with
  | nil => exact id
  | cons op pre ih =>
    intro used h
    cases op with
    | reg k l =>
      have := ih h.2
      rwa [regKeys, List.reverse_cons, List.append_assoc]
    | cancel k => exact ih h

/-- **refinement**: under fresh keys the registry is exactly the list of live registrations -/
theorem run_eq_spec (ops : List Op) :
    ∀ (r : Reg) (used : List Nat), (∀ e ∈ r.entries, e.1 ∈ used) → Fresh used ops →
      (run r ops).entries = specRun r.entries ops := by
  induction ops with
  | nil => intro r used _ _; rfl
  | cons op ops ih =>
    intro r used hu hf
    cases op with
    | reg k l =>
      obtain ⟨hk, hf'⟩ := hf
      have hne : ∀ e ∈ r.entries, e.1 ≠ k := fun e he heq => hk (heq ▸ hu e he)
      have hreg : (r.register k l).entries = (k, l) :: r.entries := by
        rw [Reg.register, List.filter_eq_self.mpr]
        intro e he
        simp [hne e he]
      have := ih (r.register k l) (k :: used) (by
        intro e he
        rw [hreg] at he
        rcases List.mem_cons.mp he with rfl | he
        · exact List.mem_cons_self
        · exact List.mem_cons_of_mem _ (hu e he)) hf'
      simp only [run, List.foldl_cons, step, specRun, specStep] at this ⊢
      rw [this, hreg]
    | cancel k =>
      have := ih (r.cancel k) used (by
        intro e he
        exact hu e (List.mem_filter.mp he).1) hf
      simp only [run, List.foldl_cons, step, specRun, specStep] at this ⊢
      rw [this]; rfl

theorem spec_keeps (ops : List Op) : ∀ (live : List (Nat × Nat)) (e : Nat × Nat), e ∈ live →
    (∀ k, Op.cancel k ∈ ops → k ≠ e.1) → e ∈ specRun live ops := by
  induction ops with
  | nil => intro live e he _; exact he
  | cons op ops ih =>
    intro live e he hc
    simp only [specRun, List.foldl_cons]
    apply ih
    · cases op with
      | reg k l => exact List.mem_cons_of_mem _ he
      | cancel k =>
        have : k ≠ e.1 := hc k List.mem_cons_self
        simp only [specStep, List.mem_filter]
        exact ⟨he, by simpa using fun h => this h.symm⟩
    · intro k hk; exact hc k (List.mem_cons_of_mem _ hk)

/-- after its key is cancelled a registration is gone, whatever follows (keys are never reused) -/
theorem spec_drops (ops : List Op) : ∀ (live : List (Nat × Nat)) (used : List Nat) (k : Nat),
    (∀ e ∈ live, e.1 ≠ k) → k ∈ used → Fresh used ops → ∀ e ∈ specRun live ops, e.1 ≠ k := by
  induction ops with
  | nil => intro live _ k h _ _ e he; exact h e he
  | cons op ops ih =>
    intro live used k h hk hf e he
    simp only [specRun, List.foldl_cons] at he
    cases op with
    | reg k' l =>
      obtain ⟨hk', hf'⟩ := hf
      refine ih _ (k' :: used) k ?_ (List.mem_cons_of_mem _ hk) hf' e he
      intro e' he'
      rcases List.mem_cons.mp he' with rfl | he'
      · intro heq; simp only at heq; subst heq; exact hk' hk
      · exact h e' he'
    | cancel k' =>
      refine ih _ used k ?_ hk hf e he
      intro e' he'
      exact h e' (List.mem_filter.mp he').1

end Verif.Listeners
