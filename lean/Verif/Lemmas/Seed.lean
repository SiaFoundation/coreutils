/-
Helper lemmas for C20 (`Verif/Props/C20.lean`) about the model `Verif/Model/Seed.lean`.
Core-only.  The `(hi, lo)` pair is read as the number `hi <<< 64 ||| lo`, on which the shifts of
the source are plain shifts (`pair_shr`, `pair_shl`, for every shift amount); masks are remainders
(`Nat.and_two_pow_sub_one_eq_mod`); from there on the codec is `/` and `%` on base-2048 digits.
-/
import Verif.Model.Seed

namespace Verif.Seed

theorem or_eq_add (i a b : Nat) (ha : a % 2 ^ i = 0) (hb : b < 2 ^ i) : a ||| b = a + b := by
  have h : a = (a / 2 ^ i) <<< i := by
    rw [Nat.shiftLeft_eq]
    have := Nat.div_add_mod a (2 ^ i)
    rw [ha, Nat.mul_comm] at this
    omega
  rw [h]; exact (Nat.shiftLeft_add_eq_or_of_lt hb _).symm

theorem and_wordMask (x : Nat) : x &&& wordMask = x % 2048 := Nat.and_two_pow_sub_one_eq_mod x 11
theorem and_lastMask (x : Nat) : x &&& lastMask = x % 128 := Nat.and_two_pow_sub_one_eq_mod x 7
theorem and_ckMask (x : Nat) : x &&& ckMask = x % 16 := Nat.and_two_pow_sub_one_eq_mod x 4

/-- `(h & 0xF0) >> 4` is bits 4..7 of `h` -/
theorem nibble_eq_mod (h0 : Nat) : nibble h0 = h0 / 16 % 16 := by
  rw [nibble, shr, Nat.shiftRight_and_distrib, Nat.shiftRight_eq_div_pow]
  exact Nat.and_two_pow_sub_one_eq_mod _ 4

theorem nibble_lt (h0 : Nat) : nibble h0 < 16 := by
  rw [nibble_eq_mod]
  exact Nat.mod_lt _ (by decide)

theorem nibble_eq (h0 : Nat) (h : h0 < 256) : nibble h0 = h0 / 16 := by
  rw [nibble_eq_mod]
  omega

theorem pairVal_eq_or (hi lo : Nat) (hl : lo < 2 ^ 64) : hi * 2 ^ 64 + lo = hi <<< 64 ||| lo := by
  rw [← Nat.shiftLeft_eq, Nat.shiftLeft_add_eq_or_of_lt hl]

theorem split128 (x : Nat) : x % 2 ^ 128 / 2 ^ 64 * 2 ^ 64 + x % 2 ^ 64 = x % 2 ^ 128 := by
  rw [show (2 : Nat) ^ 128 = 2 ^ 64 * 2 ^ 64 from rfl, Nat.mod_mul_left_div_self, Nat.mod_mul,
    Nat.mul_comm, Nat.add_comm]

theorem split_pairVal (hi lo : Nat) (hl : lo < 2 ^ 64) :
    (pairVal (hi, lo) / 2 ^ 64, pairVal (hi, lo) % 2 ^ 64) = (hi, lo) := by
  show ((hi * 2 ^ 64 + lo) / 2 ^ 64, (hi * 2 ^ 64 + lo) % 2 ^ 64) = _
  rw [Nat.mul_comm, Nat.mul_add_div (Nat.two_pow_pos 64), Nat.mul_add_mod, Nat.div_eq_of_lt hl,
    Nat.mod_eq_of_lt hl, Nat.add_zero]

/-- seed.go:72-73, 76-77 (`lo = lo>>k | hi<<(64-k); hi >>= k`) divides the 128-bit value by `2^k`;
`j` is the source's `64 - k` -/
theorem pair_shr (j k hi lo : Nat) (hjk : j + k = 64) (hl : lo < 2 ^ 64) :
    shr lo k ||| shl hi j = (hi * 2 ^ 64 + lo) / 2 ^ k % 2 ^ 64 ∧
    shr hi k = (hi * 2 ^ 64 + lo) / 2 ^ k / 2 ^ 64 := by
  have hV : (hi * 2 ^ 64 + lo) / 2 ^ k = hi <<< j ||| lo >>> k := by
    rw [pairVal_eq_or hi lo hl, ← Nat.shiftRight_eq_div_pow, Nat.shiftRight_or_distrib, ← hjk,
      Nat.shiftLeft_add, Nat.shiftLeft_shiftRight]
  have hlk : lo >>> k < 2 ^ 64 := Nat.lt_of_le_of_lt (Nat.shiftRight_le _ _) hl
  rw [hV, shr, shr, shl, Nat.or_mod_two_pow, Nat.mod_eq_of_lt hlk, ← Nat.shiftRight_eq_div_pow,
    Nat.shiftRight_or_distrib, Nat.shiftRight_eq_zero _ _ hlk, Nat.or_zero]
  refine ⟨Nat.or_comm _ _, ?_⟩
  rw [← hjk, Nat.shiftRight_add, Nat.shiftLeft_shiftRight]

theorem pair_mod (j k hi lo : Nat) (hjk : j + k = 64) : (hi * 2 ^ 64 + lo) % 2 ^ k = lo % 2 ^ k := by
  rw [← hjk, Nat.pow_add, ← Nat.mul_assoc, Nat.add_comm, Nat.add_mul_mod_self_right]

/-- seed.go:99-100, 106-107 (`hi = hi<<k | lo>>(64-k); lo = lo<<k | v`) is
`x ↦ (x * 2^k + v) mod 2^128` on the 128-bit value -/
theorem pair_shl (j k hi lo v : Nat) (hjk : j + k = 64) (hl : lo < 2 ^ 64) (hv : v < 2 ^ k) :
    shl hi k ||| shr lo j = ((hi * 2 ^ 64 + lo) * 2 ^ k + v) % 2 ^ 128 / 2 ^ 64 ∧
    shl lo k ||| v = ((hi * 2 ^ 64 + lo) * 2 ^ k + v) % 2 ^ 64 := by
  have hW : (hi * 2 ^ 64 + lo) * 2 ^ k + v = hi <<< k <<< 64 ||| lo <<< k ||| v := by
    rw [pairVal_eq_or hi lo hl, ← Nat.shiftLeft_eq, Nat.shiftLeft_add_eq_or_of_lt hv,
      Nat.shiftLeft_or_distrib, ← Nat.shiftLeft_add, Nat.add_comm 64 k, Nat.shiftLeft_add]
  have hv' : v < 2 ^ 64 := Nat.lt_of_lt_of_le hv (Nat.pow_le_pow_right (by decide) (by omega))
  have hlj : lo >>> j < 2 ^ 64 := Nat.lt_of_le_of_lt (Nat.shiftRight_le _ _) hl
  have hlo : lo <<< k >>> 64 = lo >>> j := by
    rw [← hjk, Nat.add_comm, Nat.shiftRight_add, Nat.shiftLeft_shiftRight]
  rw [hW, shl, shl, shr]
  constructor
  · rw [show (2 : Nat) ^ 128 = 2 ^ 64 * 2 ^ 64 from rfl, Nat.mod_mul_left_div_self,
      ← Nat.shiftRight_eq_div_pow, Nat.shiftRight_or_distrib, Nat.shiftRight_or_distrib,
      Nat.shiftLeft_shiftRight, Nat.shiftRight_eq_zero v 64 hv', Nat.or_zero, hlo,
      Nat.or_mod_two_pow, Nat.mod_eq_of_lt hlj]
  · rw [Nat.or_mod_two_pow, Nat.or_mod_two_pow, Nat.mod_eq_of_lt hv', Nat.shiftLeft_eq _ 64,
      Nat.mul_mod_left, Nat.zero_or]

theorem shl_add_div (x k c j : Nat) (hc : c < 2 ^ k) : (x * 2 ^ k + c) / 2 ^ (k + j) = x / 2 ^ j := by
  rw [Nat.pow_add, ← Nat.div_div_eq_div_mul, Nat.mul_comm x, Nat.mul_add_div (Nat.two_pow_pos k),
    Nat.div_eq_of_lt hc, Nat.add_zero]

theorem shl_add_mod (x k c j : Nat) (hc : c < 2 ^ k) :
    (x * 2 ^ k + c) % 2 ^ (k + j) = x % 2 ^ j * 2 ^ k + c := by
  rw [Nat.pow_add, Nat.mod_mul, Nat.mul_comm x, Nat.mul_add_mod, Nat.mod_eq_of_lt hc,
    Nat.mul_add_div (Nat.two_pow_pos k), Nat.div_eq_of_lt hc, Nat.add_zero, Nat.add_comm, Nat.mul_comm]

theorem mul16_add (e c : Nat) (hc : c < 16) : (e * 16 + c) / 16 = e ∧ (e * 16 + c) % 16 = c :=
  ⟨by rw [Nat.mul_comm, Nat.mul_add_div (by decide), Nat.div_eq_of_lt hc, Nat.add_zero],
   by rw [Nat.mul_comm, Nat.mul_add_mod, Nat.mod_eq_of_lt hc]⟩

theorem snoc_induction {α} {P : List α → Prop} (nil : P [])
    (snoc : ∀ l a, P l → P (l ++ [a])) : ∀ l, P l := by
  have h : ∀ l : List α, P l.reverse := by
    intro l
    induction l with
    | nil => exact nil
    | cons a l ih => rw [List.reverse_cons]; exact snoc _ _ ih
  intro l
  have := h l.reverse
  rwa [List.reverse_reverse] at this

theorem value_snoc (l : List Nat) (a : Nat) : value (l ++ [a]) = value l * 2048 + a := by
  simp [value, List.foldl_append]

theorem length_digitsBE (n x : Nat) : (digitsBE n x).length = n := by
  induction n generalizing x with
  | zero => rfl
  | succ n ih => simp [digitsBE, ih]

theorem digitsBE_lt (n x : Nat) : ∀ w ∈ digitsBE n x, w < 2048 := by
  induction n generalizing x with
  | zero => intro w h; simp [digitsBE] at h
  | succ n ih =>
    intro w h
    simp only [digitsBE, List.mem_append, List.mem_singleton] at h
    rcases h with h | h
    · exact ih _ _ h
    · omega

theorem value_digitsBE (n x : Nat) : value (digitsBE n x) = x % 2048 ^ n := by
  induction n generalizing x with
  | zero => simp [digitsBE, value, Nat.mod_one]
  | succ n ih =>
    rw [digitsBE, value_snoc, ih, Nat.pow_succ, Nat.mul_comm (2048 ^ n) 2048, Nat.mod_mul]
    omega

theorem digitsBE_value (ws : List Nat) (h : ∀ w ∈ ws, w < 2048) :
    digitsBE ws.length (value ws) = ws := by
  induction ws using snoc_induction with
  | nil => rfl
  | snoc l a ih =>
    have ha : a < 2048 := h a (by simp)
    have hl : ∀ w ∈ l, w < 2048 := fun w hw => h w (by simp [hw])
    rw [List.length_append, List.length_singleton, digitsBE, value_snoc]
    rw [show (value l * 2048 + a) / 2048 = value l by omega,
      show (value l * 2048 + a) % 2048 = a by omega, ih hl]

theorem value_lt (ws : List Nat) (h : ∀ w ∈ ws, w < 2048) : value ws < 2048 ^ ws.length := by
  induction ws using snoc_induction with
  | nil => simp [value]
  | snoc l a ih =>
    have ha : a < 2048 := h a (by simp)
    have hl := ih (fun w hw => h w (by simp [hw]))
    rw [value_snoc, List.length_append, List.length_singleton, Nat.pow_succ]
    have : (value l + 1) * 2048 ≤ 2048 ^ l.length * 2048 := Nat.mul_le_mul_right _ hl
    omega

theorem value_eq_take (ws : List Nat) (n : Nat) (h : ws.length = n + 1) :
    value ws = value (ws.take n) * 2048 + ws.getD n 0 := by
  induction ws using snoc_induction with
  | nil => simp at h
  | snoc l a _ =>
    have hl : l.length = n := by simpa using h
    subst hl
    simp [value_snoc, List.getD]

theorem value_mod16 (ws : List Nat) (h : ws.length = 12) : value ws % 16 = ws.getD 11 0 % 16 := by
  rw [value_eq_take ws 11 h, show (2048 : Nat) = 128 * 16 from rfl, ← Nat.mul_assoc,
    Nat.mul_add_mod_self_right]

theorem shl_eq (x k : Nat) (h : x * 2 ^ k < 2 ^ 64) : shl x k = x * 2 ^ k := by
  rw [shl, Nat.shiftLeft_eq, Nat.mod_eq_of_lt h]

theorem shr_eq (x k : Nat) : shr x k = x / 2 ^ k := Nat.shiftRight_eq_div_pow x k

theorem encLoop_eq (n : Nat) : ∀ hi lo acc, lo < 2 ^ 64 →
    encLoop n hi lo acc = digitsBE n (hi * 2 ^ 64 + lo) ++ acc := by
  induction n with
  | zero => intros; rfl
  | succ n ih =>
    intro hi lo acc hl
    obtain ⟨e1, e2⟩ := pair_shr 53 11 hi lo rfl hl
    have hm : (hi * 2 ^ 64 + lo) % 2048 = lo % 2048 := pair_mod 53 11 hi lo rfl
    show encLoop n (shr hi 11) (shr lo 11 ||| shl hi 53) ((lo &&& wordMask) :: acc) = _
    rw [e1, e2, and_wordMask, ih _ _ _ (Nat.mod_lt _ (Nat.two_pow_pos 64)), Nat.div_add_mod', digitsBE, hm,
      List.append_assoc]
    rfl

theorem encodeIdx_eq_spec (ck : Nat → Nat) (hi lo : Nat) (hl : lo < 2 ^ 64)
    (hck : ck (pairVal (hi, lo)) < 16) :
    encodeIdx ck hi lo = specEncode ck (pairVal (hi, lo)) := by
  obtain ⟨e1, e2⟩ := pair_shr 57 7 hi lo rfl hl
  have hm : (hi * 2 ^ 64 + lo) % 128 = lo % 128 := pair_mod 57 7 hi lo rfl
  have hck : ck (hi * 2 ^ 64 + lo) < 16 := hck
  show encLoop 11 (shr hi 7) (shr lo 7 ||| shl hi 57) [shl (lo &&& lastMask) 4 ||| ck (hi * 2 ^ 64 + lo)] =
    digitsBE (11 + 1) ((hi * 2 ^ 64 + lo) * 16 + ck (hi * 2 ^ 64 + lo))
  rw [e1, e2, and_lastMask, encLoop_eq _ _ _ _ (Nat.mod_lt _ (Nat.two_pow_pos 64)), Nat.div_add_mod', ← hm]
  generalize hi * 2 ^ 64 + lo = V at hck ⊢
  generalize ck V = c at hck ⊢
  -- the last word is the low 7 bits of `V` followed by the 4 checksum bits
  have hq : (V * 16 + c) / 2048 = V / 2 ^ 7 := shl_add_div V 4 c 7 hck
  have hr : (V * 16 + c) % 2048 = V % 128 * 2 ^ 4 + c := shl_add_mod V 4 c 7 hck
  show _ = digitsBE 11 ((V * 16 + c) / 2048) ++ [(V * 16 + c) % 2048]
  rw [shl_eq _ _ (by omega), or_eq_add 4 _ _ (Nat.mul_mod_left _ _) hck, hq, hr]

theorem mod_mul_add_mod (x k a m n : Nat) (h : n ∣ m) : (x % m * k + a) % n = (x * k + a) % n := by
  rw [Nat.add_mod, Nat.mul_mod, Nat.mod_mod_of_dvd _ h, ← Nat.mul_mod, ← Nat.add_mod]

/-- seed.go:98-101: the loop shifts the words into the pair, keeping the low 128 bits -/
theorem foldl_decStep (ws : List Nat) (h : ∀ w ∈ ws, w < 2048) :
    ws.foldl decStep (0, 0) = (value ws % 2 ^ 128 / 2 ^ 64, value ws % 2 ^ 64) := by
  induction ws using snoc_induction with
  | nil => rfl
  | snoc l a ih =>
    obtain ⟨e1, e2⟩ := pair_shl 53 11 (value l % 2 ^ 128 / 2 ^ 64) (value l % 2 ^ 64) a rfl
      (Nat.mod_lt _ (Nat.two_pow_pos 64)) (h a (by simp))
    rw [split128, mod_mul_add_mod _ _ _ _ _ (Nat.dvd_refl _)] at e1
    rw [split128, mod_mul_add_mod (value l) _ a (2 ^ 128) (2 ^ 64) ⟨2 ^ 64, rfl⟩] at e2
    rw [List.foldl_append, ih (fun w hw => h w (by simp [hw])), List.foldl_cons, List.foldl_nil,
      value_snoc]
    exact Prod.ext e1 e2

theorem map_idxLookup_some (ws : List Nat) (h : ∀ w ∈ ws, w < 2048) :
    ws.map idxLookup = ws.map some := by
  apply List.map_congr_left
  intro w hw
  simp [idxLookup, h w hw]

theorem decodeOpts_count (ck : Nat → Nat) (opts : List (Option Nat)) (h : opts.length ≠ 12) :
    decodeOpts ck opts = .error .count := by
  simp [decodeOpts, h]

theorem decodeOpts_unknown (ck : Nat → Nat) (opts : List (Option Nat)) (h : opts.length = 12)
    (h2 : none ∈ opts) : decodeOpts ck opts = .error .unknown := by
  have : opts.any Option.isNone = true := List.any_eq_true.mpr ⟨none, h2, rfl⟩
  simp [decodeOpts, h, this]

/-- seed.go:104-112 on 12 words found in the map, at the `(hi, lo)` level -/
theorem decodeOpts_some (ck : Nat → Nat) (ws : List Nat) (hlen : ws.length = 12)
    (h : ∀ w ∈ ws, w < 2048) :
    decodeOpts ck (ws.map some) =
      if ck (value ws / 16) ≠ value ws % 16 then .error .checksum
      else .ok (value ws / 16 / 2 ^ 64, value ws / 16 % 2 ^ 64) := by
  have hw : ws.getD 11 0 < 2048 := by
    apply h; rw [List.getD_eq_getElem?_getD, List.getElem?_eq_getElem (by omega)]; simp
  have htake : ∀ w ∈ ws.take 11, w < 2048 := fun w hw => h w (List.mem_of_mem_take hw)
  have hv : value (ws.take 11) < 2048 ^ 11 := by
    have := value_lt (ws.take 11) htake
    rwa [List.length_take, hlen] at this
  have hval := value_eq_take ws 11 hlen
  -- eleven words fit in 121 bits: the loop has not truncated
  have hT : value (ws.take 11) % 2 ^ 128 = value (ws.take 11) :=
    Nat.mod_eq_of_lt (Nat.lt_trans hv (by decide))
  obtain ⟨hE, hE', hw4⟩ : value (ws.take 11) * 2 ^ 7 + ws.getD 11 0 / 2 ^ 4 = value ws / 16 ∧
      value ws / 16 < 2 ^ 128 ∧ ws.getD 11 0 / 2 ^ 4 < 2 ^ 7 := by
    omega
  obtain ⟨e1, e2⟩ := pair_shl 57 7 (value (ws.take 11) / 2 ^ 64) (value (ws.take 11) % 2 ^ 64)
    (ws.getD 11 0 / 2 ^ 4) rfl (Nat.mod_lt _ (Nat.two_pow_pos 64)) hw4
  rw [Nat.div_add_mod', hE] at e1 e2
  rw [Nat.mod_eq_of_lt hE'] at e1
  have hany : (ws.map some).any Option.isNone = false := by simp
  have hmap : (ws.map some).map (fun o => o.getD 0) = ws := by simp [Function.comp_def]
  rw [decodeOpts, if_neg (by simp [hlen]), if_neg (by simp [hany])]
  simp only [hmap, nWords, lastBits, ckBits, Nat.reduceSub, foldl_decStep _ htake, hT, pairVal,
    and_ckMask]
  rw [shr_eq (ws.getD 11 0), e1, e2, Nat.div_add_mod', ← value_mod16 ws hlen]

theorem decodeOpts_some_ok (ck : Nat → Nat) (ws : List Nat) (hlen : ws.length = 12)
    (h : ∀ w ∈ ws, w < 2048) (p : Nat × Nat) :
    decodeOpts ck (ws.map some) = .ok p ↔
      ck (value ws / 16) = value ws % 16 ∧ p = (value ws / 16 / 2 ^ 64, value ws / 16 % 2 ^ 64) := by
  rw [decodeOpts_some ck ws hlen h]
  by_cases hc : ck (value ws / 16) = value ws % 16
  · rw [if_neg (not_not_intro hc)]
    exact ⟨fun h => ⟨hc, (Except.ok.inj h).symm⟩, fun h => by rw [h.2]⟩
  · rw [if_pos hc]
    exact ⟨nofun, fun h => absurd h.1 hc⟩

theorem exists_ge_of_not (ws : List Nat) (h : ¬ ∀ w ∈ ws, w < 2048) : ∃ w ∈ ws, 2048 ≤ w := by
  simpa using h

theorem specDecode_count (ck : Nat → Nat) (ws : List Nat) (h : ws.length ≠ 12) :
    specDecode ck ws = .error .count := if_pos h

theorem specDecode_unknown (ck : Nat → Nat) (ws : List Nat) (h : ws.length = 12)
    (h2 : ∃ w ∈ ws, 2048 ≤ w) : specDecode ck ws = .error .unknown := by
  rw [specDecode, if_neg (not_not_intro h), if_pos (by simpa using h2)]

theorem specDecode_inrange (ck : Nat → Nat) (ws : List Nat) (h : ws.length = 12)
    (hr : ∀ w ∈ ws, w < 2048) :
    specDecode ck ws =
      if ck (value ws / 16) ≠ value ws % 16 then .error .checksum else .ok (value ws / 16) := by
  rw [specDecode, if_neg (not_not_intro h), if_neg (by simpa using hr)]

theorem value_specEncode (ck : Nat → Nat) (e : Nat) (he : e < 2 ^ 128) (hck : ck e < 16) :
    value (specEncode ck e) = e * 16 + ck e := by
  have hN : e * 16 + ck e < 2048 ^ 12 := by
    have : (2048 : Nat) ^ 12 = 2 ^ 132 := by decide
    omega
  rw [specEncode, value_digitsBE, Nat.mod_eq_of_lt hN]

theorem specDecode_ok_iff (ck : Nat → Nat) (ws : List Nat) (e : Nat) :
    specDecode ck ws = .ok e ↔
      ws.length = 12 ∧ (∀ w ∈ ws, w < 2048) ∧ ck e = value ws % 16 ∧ e = value ws / 16 := by
  constructor
  · intro h
    by_cases hlen : ws.length = 12
    · by_cases hr : ∀ w ∈ ws, w < 2048
      · rw [specDecode_inrange ck ws hlen hr] at h
        split at h
        · cases h
        · cases h
          exact ⟨hlen, hr, Decidable.of_not_not ‹_›, rfl⟩
      · rw [specDecode_unknown ck ws hlen (exists_ge_of_not ws hr)] at h
        cases h
    · rw [specDecode_count ck ws hlen] at h
      cases h
  · rintro ⟨hlen, hr, hc, rfl⟩
    rw [specDecode_inrange ck ws hlen hr, if_neg (not_not_intro hc)]
theorem specDecode_specEncode (ck : Nat → Nat) (e : Nat) (he : e < 2 ^ 128) (hck : ck e < 16) :
    specDecode ck (specEncode ck e) = .ok e := by
  obtain ⟨h1, h2⟩ := mul16_add e (ck e) hck
  rw [specDecode_ok_iff, value_specEncode ck e he hck, h1, h2]
  exact ⟨length_digitsBE _ _, digitsBE_lt _ _, rfl, rfl⟩

theorem specEncode_of_specDecode (ck : Nat → Nat) (ws : List Nat) (e : Nat)
    (h : specDecode ck ws = .ok e) : specEncode ck e = ws := by
  obtain ⟨hlen, hr, hc, he⟩ := (specDecode_ok_iff ck ws e).mp h
  have : e * 16 + ck e = value ws := by omega
  rw [specEncode, this, ← hlen, digitsBE_value ws hr]

/-- Horner's rule on the lowest base-256 digit -/
theorem div_mod_256 (y n : Nat) : y / 256 % n * 256 + y % 256 = y % (n * 256) := by
  rw [Nat.mul_comm n, Nat.mod_mul, Nat.mul_comm, Nat.add_comm]

theorem byte_step (x k n : Nat) :
    x / 2 ^ (k + 8) % n * 256 + x / 2 ^ k % 256 = x / 2 ^ k % (n * 256) := by
  rw [Nat.pow_add, ← Nat.div_div_eq_div_mul]
  exact div_mod_256 _ n

theorem be64_putBe64 (x : Nat) : be64 (putBe64 x) = x % 2 ^ 64 := by
  simp only [be64, putBe64, List.foldl_cons, List.foldl_nil, Nat.zero_mul, Nat.zero_add]
  rw [byte_step x 48, byte_step x 40, byte_step x 32, byte_step x 24, byte_step x 16,
    byte_step x 8]
  exact div_mod_256 x _

theorem putBe64_injective (x y : Nat) (hx : x < 2 ^ 64) (hy : y < 2 ^ 64)
    (h : putBe64 x = putBe64 y) : x = y := by
  have := congrArg be64 h
  rwa [be64_putBe64, be64_putBe64, Nat.mod_eq_of_lt hx, Nat.mod_eq_of_lt hy] at this

theorem length_putBe64 (x : Nat) : (putBe64 x).length = 8 := rfl
theorem length_putLe64 (x : Nat) : (putLe64 x).length = 8 := rfl

theorem putBe64_lt (x : Nat) : ∀ b ∈ putBe64 x, b < 256 := by
  intro b hb
  simp only [putBe64, List.mem_cons, List.not_mem_nil, or_false] at hb
  rcases hb with rfl | rfl | rfl | rfl | rfl | rfl | rfl | rfl <;> exact Nat.mod_lt _ (by decide)

/-- decoding the 16 bytes written by seed.go:110-111 gives the pair back -/
theorem pairOfBytes_bytesOfPair (p : Nat × Nat) (h1 : p.1 < 2 ^ 64) (h2 : p.2 < 2 ^ 64) :
    pairOfBytes (bytesOfPair p) = p := by
  show (be64 (putBe64 p.1), be64 (putBe64 p.2)) = p
  rw [be64_putBe64, be64_putBe64, Nat.mod_eq_of_lt h1, Nat.mod_eq_of_lt h2]

theorem putLe64_eq_reverse (x : Nat) : putLe64 x = (putBe64 x).reverse := rfl

theorem putLe64_injective (x y : Nat) (hx : x < 2 ^ 64) (hy : y < 2 ^ 64)
    (h : putLe64 x = putLe64 y) : x = y := by
  rw [putLe64_eq_reverse, putLe64_eq_reverse, List.reverse_inj] at h
  exact putBe64_injective x y hx hy h

theorem fieldsAux_spaces (sp rest : List Nat) (h : AllSpace sp) :
    fieldsAux (sp ++ rest) [] = fieldsAux rest [] := by
  induction sp with
  | nil => rfl
  | cons c sp ih =>
    have hc : isSpace c = true := h c (by simp)
    simp only [List.cons_append, fieldsAux, hc, if_true, List.isEmpty_nil]
    exact ih (fun c hc => h c (by simp [hc]))

theorem fieldsAux_token (t rest cur : List Nat) (h : ∀ c ∈ t, isSpace c = false) :
    fieldsAux (t ++ rest) cur = fieldsAux rest (t.reverse ++ cur) := by
  induction t generalizing cur with
  | nil => rfl
  | cons c t ih =>
    have hc : isSpace c = false := h c (by simp)
    simp only [List.cons_append, fieldsAux, hc, Bool.false_eq_true, if_false]
    rw [ih _ (fun c hc => h c (by simp [hc]))]
    simp

theorem fieldsAux_token_end (t : List Nat) (ht : TokOk t) : fieldsAux t [] = [t] := by
  have := fieldsAux_token t [] [] ht.2
  rw [List.append_nil] at this
  simp [this, fieldsAux, ht.1]

theorem fieldsAux_token_space (t : List Nat) (c : Nat) (rest : List Nat) (ht : TokOk t)
    (hc : isSpace c = true) : fieldsAux (t ++ c :: rest) [] = t :: fieldsAux rest [] := by
  rw [fieldsAux_token t _ [] ht.2]
  simp [fieldsAux, hc, ht.1]

/-- a token and the white space after it; the white space may be empty only at the end -/
theorem fieldsAux_token_sep (t sep rest : List Nat) (ht : TokOk t) (hs : AllSpace sep)
    (hne : sep = [] → rest = []) : fieldsAux (t ++ sep ++ rest) [] = t :: fieldsAux rest [] := by
  cases sep with
  | nil =>
    rw [hne rfl, List.append_nil, List.append_nil]
    exact fieldsAux_token_end t ht
  | cons c sp =>
    rw [List.append_assoc, List.cons_append, fieldsAux_token_space t c _ ht (hs c (by simp)),
      fieldsAux_spaces sp _ (fun c hc => hs c (by simp [hc]))]

theorem fieldsAux_render (items : List (List Nat × List Nat)) (h : Rendering items) :
    fieldsAux (render items) [] = items.map Prod.fst := by
  fun_induction Rendering items with
  | case1 => rfl
  | case2 t sep => exact fieldsAux_token_sep t sep [] h.1 h.2 (fun _ => rfl)
  | case3 t sep r _ ih =>
    exact (fieldsAux_token_sep t sep _ h.1 h.2.1 (fun e => absurd e h.2.2.1)).trans
      (congrArg _ (ih h.2.2.2))

theorem fields_render (pre : List Nat) (items : List (List Nat × List Nat))
    (hpre : AllSpace pre) (h : Rendering items) :
    fields (pre ++ render items) = items.map Prod.fst := by
  rw [fields, fieldsAux_spaces pre _ hpre, fieldsAux_render items h]

/-- `strings.Join(ws, " ")` is the rendering with single spaces -/
theorem fields_joinSp (ws : List (List Nat)) (h : ∀ w ∈ ws, TokOk w) : fields (joinSp ws) = ws := by
  unfold fields
  fun_induction joinSp ws with
  | case1 => rfl
  | case2 w => exact fieldsAux_token_end w (h w (by simp))
  | case3 w ws _ ih =>
    rw [fieldsAux_token_space w 32 _ (h w (by simp)) (by decide), ih (fun x hx => h x (by simp [hx]))]

theorem wordIndexAux_not_mem (t : List Nat) (vs : List (List Nat)) (k : Nat) (r : Option Nat)
    (h : t ∉ vs) : wordIndexAux t vs k r = r := by
  induction vs generalizing k r with
  | nil => rfl
  | cons v vs ih =>
    have hv : v ≠ t := fun e => h (by simp [e])
    rw [wordIndexAux, if_neg hv, ih _ _ (fun hm => h (by simp [hm]))]

theorem wordIndexAux_nodup (t : List Nat) (vs : List (List Nat)) (k : Nat) (r : Option Nat)
    (hnd : vs.Nodup) (j : Nat) (hj : j < vs.length) (ht : vs[j] = t) :
    wordIndexAux t vs k r = some (k + j) := by
  induction vs generalizing k r j with
  | nil => simp at hj
  | cons v vs ih =>
    rw [List.nodup_cons] at hnd
    cases j with
    | zero =>
      simp only [List.getElem_cons_zero] at ht
      subst ht
      rw [wordIndexAux, if_pos rfl, wordIndexAux_not_mem _ _ _ _ hnd.1]; rfl
    | succ j =>
      simp only [List.getElem_cons_succ] at ht
      have hj' : j < vs.length := by simpa using hj
      have hv : v ≠ t := by
        intro e; subst e; apply hnd.1; rw [← ht]; exact List.getElem_mem hj'
      rw [wordIndexAux, if_neg hv, ih _ _ hnd.2 j hj' ht]
      congr 1; omega

theorem wordIndexAux_some (t : List Nat) (vs : List (List Nat)) (k : Nat) (r : Option Nat) (i : Nat)
    (h : wordIndexAux t vs k r = some i) :
    r = some i ∨ (k ≤ i ∧ vs[i - k]? = some t) := by
  induction vs generalizing k r with
  | nil => exact Or.inl h
  | cons v vs ih =>
    rw [wordIndexAux] at h
    rcases ih _ _ h with h' | ⟨h1, h2⟩
    · by_cases hv : v = t
      · rw [if_pos hv] at h'
        have : k = i := by simpa using h'
        subst this
        right; simp [hv]
      · rw [if_neg hv] at h'; exact Or.inl h'
    · right
      refine ⟨by omega, ?_⟩
      rw [show i - k = (i - (k + 1)) + 1 by omega, List.getElem?_cons_succ]; exact h2

theorem wordIndex_getElem (wl : List (List Nat)) (hnd : wl.Nodup) (i : Nat) (hi : i < wl.length) :
    wordIndex wl (wl.getD i []) = some i := by
  have : wl.getD i [] = wl[i] := by simp [List.getD, hi]
  rw [this, wordIndex, wordIndexAux_nodup _ wl 0 none hnd i hi rfl]; simp

theorem wordIndex_some (wl : List (List Nat)) (t : List Nat) (i : Nat) (h : wordIndex wl t = some i) :
    i < wl.length ∧ wl.getD i [] = t := by
  rcases wordIndexAux_some t wl 0 none i h with h' | ⟨_, h2⟩
  · cases h'
  · simp only [Nat.sub_zero] at h2
    obtain ⟨hi, he⟩ := List.getElem?_eq_some_iff.mp h2
    exact ⟨hi, by simp [List.getD, hi, he]⟩

theorem wordIndex_none (wl : List (List Nat)) (t : List Nat) (h : t ∉ wl) : wordIndex wl t = none :=
  wordIndexAux_not_mem t wl 0 none h

theorem getD_tokOk (wl : List (List Nat)) (hg : GoodList wl) (i : Nat) (hi : i < 2048) :
    TokOk (wl.getD i []) := by
  have hlt : i < wl.length := by rw [hg.1]; exact hi
  have : wl.getD i [] = wl[i] := by simp [List.getD, hlt]
  rw [this]; exact hg.2.2 _ (List.getElem_mem hlt)

theorem map_wordIndex (wl : List (List Nat)) (hg : GoodList wl) (ws : List Nat)
    (h : ∀ w ∈ ws, w < 2048) :
    (ws.map (fun w => wl.getD w [])).map (wordIndex wl) = ws.map some := by
  rw [List.map_map]
  apply List.map_congr_left
  intro w hw
  exact wordIndex_getElem wl hg.2.1 w (by rw [hg.1]; exact h w hw)

theorem of_map_wordIndex (wl : List (List Nat)) : ∀ (ts : List (List Nat)) (ws : List Nat),
    ts.map (wordIndex wl) = ws.map some →
      ts = ws.map (fun w => wl.getD w []) ∧ ∀ w ∈ ws, w < wl.length
  | [], [], _ => ⟨rfl, fun _ hw => absurd hw List.not_mem_nil⟩
  | [], _ :: _, h => by cases h
  | _ :: _, [], h => by cases h
  | t :: ts, w :: ws, h => by
    rw [List.map_cons, List.map_cons, List.cons.injEq] at h
    obtain ⟨h1, h2⟩ := wordIndex_some wl t w h.1
    obtain ⟨ih1, ih2⟩ := of_map_wordIndex wl ts ws h.2
    exact ⟨by rw [List.map_cons, h2, ← ih1], List.forall_mem_cons.mpr ⟨h1, ih2⟩⟩

theorem decodeOpts_ok (ck : Nat → Nat) (opts : List (Option Nat)) (p : Nat × Nat)
    (h : decodeOpts ck opts = .ok p) : opts.length = 12 ∧ none ∉ opts := by
  have h1 : opts.length = 12 := Decidable.byContradiction fun h1 => by
    rw [decodeOpts_count ck opts h1] at h; cases h
  exact ⟨h1, fun h2 => by rw [decodeOpts_unknown ck opts h1 h2] at h; cases h⟩

theorem opts_eq_map_some (opts : List (Option Nat)) (h : none ∉ opts) :
    opts = (opts.map (fun o => o.getD 0)).map some := by
  induction opts with
  | nil => rfl
  | cons o l ih =>
    cases o with
    | none => exact absurd (List.mem_cons_self ..) h
    | some v =>
      rw [List.map_cons, List.map_cons, Option.getD_some, ← ih (fun hm => h (List.mem_cons_of_mem _ hm))]

theorem decodePhrase_ok (wl : List (List Nat)) (ck : Nat → Nat) (s : List Nat) (p : Nat × Nat)
    (h : decodePhrase wl ck s = .ok p) :
    ∃ ws : List Nat, ws.length = 12 ∧ (∀ w ∈ ws, w < wl.length) ∧
      fields s = ws.map (fun w => wl.getD w []) ∧ decodeOpts ck (ws.map some) = .ok p := by
  obtain ⟨h12, hnone⟩ := decodeOpts_ok ck _ p h
  have e := opts_eq_map_some _ hnone
  obtain ⟨hf, hr⟩ := of_map_wordIndex wl _ _ e
  refine ⟨_, ?_, hr, hf, ?_⟩
  · rw [List.length_map]; exact h12
  · rw [← e]; exact h

theorem decodePhrase_ok_iff (wl : List (List Nat)) (hg : GoodList wl) (ck : Nat → Nat)
    (s : List Nat) (p : Nat × Nat) :
    decodePhrase wl ck s = .ok p ↔
      ∃ ws : List Nat, fields s = ws.map (fun w => wl.getD w []) ∧ ws.length = 12 ∧
        (∀ w ∈ ws, w < 2048) ∧ ck (value ws / 16) = value ws % 16 ∧
        p = (value ws / 16 / 2 ^ 64, value ws / 16 % 2 ^ 64) := by
  constructor
  · intro h
    obtain ⟨ws, hl, hr, hf, hd⟩ := decodePhrase_ok wl ck s p h
    rw [hg.1] at hr
    obtain ⟨hc, hp⟩ := (decodeOpts_some_ok ck ws hl hr p).mp hd
    exact ⟨ws, hf, hl, hr, hc, hp⟩
  · intro ⟨ws, hf, hl, hr, hc, hp⟩
    rw [decodePhrase, hf, map_wordIndex wl hg ws hr]
    exact (decodeOpts_some_ok ck ws hl hr p).mpr ⟨hc, hp⟩

theorem encodeIdx_of_decodeOpts (ck : Nat → Nat) (ws : List Nat) (hl : ws.length = 12)
    (hr : ∀ w ∈ ws, w < 2048) (p : Nat × Nat) (h : decodeOpts ck (ws.map some) = .ok p) :
    (p.1 < 2 ^ 64 ∧ p.2 < 2 ^ 64) ∧ encodeIdx ck p.1 p.2 = ws := by
  obtain ⟨hc, rfl⟩ := (decodeOpts_some_ok ck ws hl hr p).mp h
  have hv : value ws < 2048 ^ 12 := by
    have := value_lt ws hr
    rwa [hl] at this
  have hlo : value ws / 16 % 2 ^ 64 < 2 ^ 64 := Nat.mod_lt _ (Nat.two_pow_pos 64)
  have hpv : pairVal (value ws / 16 / 2 ^ 64, value ws / 16 % 2 ^ 64) = value ws / 16 :=
    Nat.div_add_mod' _ _
  refine ⟨⟨Nat.div_lt_of_lt_mul (Nat.div_lt_of_lt_mul hv), hlo⟩, ?_⟩
  rw [encodeIdx_eq_spec ck _ _ hlo (by rw [hpv, hc]; exact Nat.mod_lt _ (by decide)), hpv, specEncode, hc,
    Nat.div_add_mod']
  have := digitsBE_value ws hr
  rwa [hl] at this

theorem decodePhrase_encodePhrase (wl : List (List Nat)) (hg : GoodList wl) (ck : Nat → Nat)
    (hi lo : Nat) (hh : hi < 2 ^ 64) (hl : lo < 2 ^ 64) (hck : ck (pairVal (hi, lo)) < 16) :
    decodePhrase wl ck (encodePhrase wl ck hi lo) = .ok (hi, lo) := by
  have hX : pairVal (hi, lo) < 2 ^ 128 := by simp only [pairVal]; omega
  have hspec := encodeIdx_eq_spec ck hi lo hl hck
  have hlen : (encodeIdx ck hi lo).length = 12 := by rw [hspec]; exact length_digitsBE _ _
  have hr : ∀ w ∈ encodeIdx ck hi lo, w < 2048 := by rw [hspec]; exact digitsBE_lt _ _
  have htok : ∀ t ∈ (encodeIdx ck hi lo).map (fun w => wl.getD w []), TokOk t := by
    intro t ht
    obtain ⟨w, hw, rfl⟩ := List.mem_map.mp ht
    exact getD_tokOk wl hg w (hr w hw)
  rw [decodePhrase, encodePhrase, fields_joinSp _ htok, map_wordIndex wl hg _ hr]
  apply (decodeOpts_some_ok ck _ hlen hr _).mpr
  rw [hspec, value_specEncode ck _ hX hck]
  obtain ⟨h1, h2⟩ := mul16_add _ _ hck
  rw [h1, h2]
  exact ⟨rfl, (split_pairVal hi lo hl).symm⟩

theorem encodePhrase_of_decodePhrase (wl : List (List Nat)) (hlen : wl.length = 2048)
    (ck : Nat → Nat) (s : List Nat) (p : Nat × Nat) (h : decodePhrase wl ck s = .ok p) :
    (p.1 < 2 ^ 64 ∧ p.2 < 2 ^ 64) ∧ encodePhrase wl ck p.1 p.2 = joinSp (fields s) := by
  obtain ⟨ws, hl, hr, hf, hd⟩ := decodePhrase_ok wl ck s p h
  rw [hlen] at hr
  obtain ⟨hb, he⟩ := encodeIdx_of_decodeOpts ck ws hl hr p hd
  exact ⟨hb, by rw [encodePhrase, he, hf]⟩

theorem decodePhrase_count (wl : List (List Nat)) (ck : Nat → Nat) (s : List Nat)
    (h : (fields s).length ≠ 12) : decodePhrase wl ck s = .error .count :=
  decodeOpts_count ck _ (by simpa using h)

theorem decodePhrase_unknown (wl : List (List Nat)) (ck : Nat → Nat) (s : List Nat)
    (h : (fields s).length = 12) (t : List Nat) (ht : t ∈ fields s) (hn : t ∉ wl) :
    decodePhrase wl ck s = .error .unknown :=
  decodeOpts_unknown ck _ (by simpa using h)
    (List.mem_map.mpr ⟨t, ht, wordIndex_none wl t hn⟩)

end Verif.Seed
