/-
Helper lemmas for M8 (`Model/RhpClient.lean`): inversion of the `Res` sequencing and of each
`expect*`, `pay` and each `reviseFor*`, arithmetic of the price table and of the leaf range of a
read, the index normalisation of `RPCFreeSectors`.
-/
import Verif.Model.RhpClient

namespace Verif.RhpClient

theorem round4KiB_mono {a b : Nat} (h : a ≤ b) : round4KiB a ≤ round4KiB b := by
  unfold round4KiB
  exact Nat.mul_le_mul_right _ (Nat.div_le_div_right (by omega))

theorem appendCost_mono (p : Prices) (d : Nat) {a b : Nat} (h : a ≤ b) :
    (appendCost p a d).renterCost ≤ (appendCost p b d).renterCost := by
  simp only [appendCost, Usage.renterCost]
  have h1 : p.storage * sectorSize * a * d ≤ p.storage * sectorSize * b * d :=
    Nat.mul_le_mul_right _ (Nat.mul_le_mul_left _ h)
  have h2 : p.ingress * round4KiB (32 * a) ≤ p.ingress * round4KiB (32 * b) :=
    Nat.mul_le_mul_left _ (round4KiB_mono (by omega))
  omega


section
variable {α β : Type}

@[simp] theorem bind_ok_iff {x : Res α} {f : α → Res β} {b : β} :
    (x >>= f) = .ok b ↔ ∃ a, x = .ok a ∧ f a = .ok b := by
  cases x <;> simp [Bind.bind, Res.bind]

@[simp] theorem pure_ok_iff {a b : α} : (pure a : Res α) = .ok b ↔ a = b := by
  simp [pure]

@[simp] theorem check_ok_iff {b : Bool} {u : Unit} : check b = .ok u ↔ b = true := by
  cases b <;> simp [check]

theorem ok_bind (a : α) (f : α → Res β) : (Res.ok a >>= f) = f a := rfl

theorem check_bind_ok {b : Bool} {f : Unit → Res β} {r : β} (h : (check b >>= f) = .ok r) :
    b = true ∧ f () = .ok r := by
  cases b
  · cases h
  · exact ⟨rfl, h⟩

@[simp] theorem ofOption_ok_iff {o : Option α} {a : α} : ofOption o = .ok a ↔ o = some a := by
  cases o <;> simp [ofOption]

theorem bind_crash_iff {x : Res α} {f : α → Res β} :
    (x >>= f) = .crash ↔ x = .crash ∨ ∃ a, x = .ok a ∧ f a = .crash := by
  cases x <;> simp [Bind.bind, Res.bind]

@[simp] theorem check_ne_crash {b : Bool} : check b ≠ .crash := by
  cases b <;> simp [check]

@[simp] theorem ofOption_ne_crash {o : Option α} : ofOption o ≠ .crash := by
  cases o <;> simp [ofOption]

@[simp] theorem pure_ne_crash {a : α} : (pure a : Res α) ≠ .crash := by simp [pure]

end

section
variable {ρ π σ : Type}

/-- `expectX msgs = .ok r` holds exactly when `msgs` starts with a message of shape `X` carrying
the components of `r`: split the definition's `match`; in the branch of that shape both sides
are constructor applications, the other branch returns `.err`. -/
macro "expect_tac" : tactic => `(tactic| (
  constructor
  · intro h
    split at h
    · cases h
      rfl
    · cases h
  · intro h
    subst h
    rfl))

@[simp] theorem expectReadResp_ok {msgs : List (Msg ρ π σ)} {r} :
    expectReadResp msgs = .ok r ↔ msgs = .readResp r.1 r.2.1 :: r.2.2 := by
  unfold expectReadResp; expect_tac
@[simp] theorem expectWriteResp_ok {msgs : List (Msg ρ π σ)} {r} :
    expectWriteResp msgs = .ok r ↔ msgs = .writeResp r.1 :: r.2 := by
  unfold expectWriteResp; expect_tac
@[simp] theorem expectVerifyResp_ok {msgs : List (Msg ρ π σ)} {r} :
    expectVerifyResp msgs = .ok r ↔ msgs = .verifyResp r.1 r.2.1 :: r.2.2 := by
  unfold expectVerifyResp; expect_tac
@[simp] theorem expectFreeResp_ok {msgs : List (Msg ρ π σ)} {r} :
    expectFreeResp msgs = .ok r ↔ msgs = .freeResp r.1 r.2.1 r.2.2.1 :: r.2.2.2 := by
  unfold expectFreeResp; expect_tac
@[simp] theorem expectAppendResp_ok {msgs : List (Msg ρ π σ)} {r} :
    expectAppendResp msgs = .ok r ↔ msgs = .appendResp r.1 r.2.1 r.2.2.1 :: r.2.2.2 := by
  unfold expectAppendResp; expect_tac
@[simp] theorem expectHostSig_ok {msgs : List (Msg ρ π σ)} {r} :
    expectHostSig msgs = .ok r ↔ msgs = .hostSig r.1 :: r.2 := by
  unfold expectHostSig; expect_tac
@[simp] theorem expectFundResp_ok {msgs : List (Msg ρ π σ)} {r} :
    expectFundResp msgs = .ok r ↔ msgs = .fundResp r.1 r.2.1 :: r.2.2 := by
  unfold expectFundResp; expect_tac
@[simp] theorem expectReplenishResp_ok {msgs : List (Msg ρ π σ)} {r} :
    expectReplenishResp msgs = .ok r ↔ msgs = .replenishResp r.1 :: r.2 := by
  unfold expectReplenishResp; expect_tac
@[simp] theorem expectRootsResp_ok {msgs : List (Msg ρ π σ)} {r} :
    expectRootsResp msgs = .ok r ↔ msgs = .rootsResp r.1 r.2.1 r.2.2.1 :: r.2.2.2 := by
  unfold expectRootsResp; expect_tac

theorem rootsCount_ok {cfg : Cfg} {b : Bool} {u : Unit} : rootsCount cfg b = .ok u ↔ b = true := by
  cases b <;> simp [rootsCount]; split <;> simp

end

section
variable {ρ σ : Type}

theorem pay_some {fc rev : Rev ρ σ} {u : Usage} (h : pay fc u = some rev) :
    u.renterCost ≤ fc.renterOut ∧ u.risked ≤ fc.missedHost ∧
    rev = { fc with
      revNum := fc.revNum + 1
      renterOut := fc.renterOut - u.renterCost
      hostOut := fc.hostOut + u.renterCost
      missedHost := fc.missedHost - u.risked
      renterSig := none
      hostSig := none } := by
  unfold pay at h
  split at h
  · cases h
  · split at h
    · cases h
    · cases h
      refine ⟨by omega, by omega, rfl⟩

theorem reviseForRoots_some {fc : Rev ρ σ} {p : Prices} {n : Nat} {ru : Rev ρ σ × Usage}
    (h : reviseForRoots fc p n = some ru) :
    ∃ paid, pay fc (rootsCost p n) = some paid ∧ (paid, rootsCost p n) = ru :=
  Option.map_eq_some_iff.mp h

theorem reviseForFunding_some {fc : Rev ρ σ} {amount : Nat} {ru : Rev ρ σ × Usage}
    (h : reviseForFunding fc amount = some ru) :
    ∃ paid, pay fc { funding := amount } = some paid ∧ (paid, { funding := amount }) = ru :=
  Option.map_eq_some_iff.mp h

theorem reviseForAppend_some {fc : Rev ρ σ} {p : Prices} {root : ρ} {n : Nat} {ru : Rev ρ σ × Usage}
    (h : reviseForAppend fc p root n = some ru) :
    ∃ paid,
      let growth := n - min n ((fc.capacity - fc.filesize) / sectorSize)
      let usage := appendCost p growth (fc.expHeight - p.tipHeight)
      pay { fc with
        filesize := fc.filesize + sectorSize * n
        capacity := fc.capacity + sectorSize * growth
        root := root } usage = some paid ∧
      (paid, usage) = ru :=
  Option.map_eq_some_iff.mp h

theorem reviseForFree_some {fc : Rev ρ σ} {p : Prices} {newRoot : ρ} {n : Nat} {ru : Rev ρ σ × Usage}
    (h : reviseForFree fc p newRoot n = some ru) :
    ∃ paid, pay { fc with filesize := sub64 fc.filesize (sectorSize * n) } (freeCost p n) = some paid ∧
      ({ paid with root := newRoot }, freeCost p n) = ru :=
  Option.map_eq_some_iff.mp h

@[simp] theorem unsigned_setHostSig (r : Rev ρ σ) (s : Option σ) :
    ({ r with hostSig := s } : Rev ρ σ).unsigned = r.unsigned := rfl

@[simp] theorem unsigned_unsigned (r : Rev ρ σ) : r.unsigned.unsigned = r.unsigned := rfl

end

theorem insertDesc_length (x : Nat) (l : List Nat) : (insertDesc x l).length ≤ l.length + 1 := by
  induction l with
  | nil => simp [insertDesc]
  | cons y ys ih =>
    simp only [insertDesc]
    split
    · simp
    · split
      · simp
      · simp only [List.length_cons]; omega

theorem normalize_length (l : List Nat) : (normalize l).length ≤ l.length := by
  induction l with
  | nil => simp [normalize]
  | cons x xs ih =>
    have := insertDesc_length x (normalize xs)
    simp only [normalize, List.foldr_cons, List.length_cons] at *
    omega

theorem insertDesc_mem (x : Nat) (l : List Nat) (z : Nat) :
    z ∈ insertDesc x l ↔ z = x ∨ z ∈ l := by
  induction l with
  | nil => simp [insertDesc]
  | cons y ys ih =>
    simp only [insertDesc]
    split
    · simp
    · split
      · rename_i h; subst h; simp
      · simp only [List.mem_cons, ih]
        exact or_left_comm

theorem normalize_mem (l : List Nat) (z : Nat) : z ∈ normalize l ↔ z ∈ l := by
  induction l with
  | nil => simp [normalize]
  | cons x xs ih =>
    have : normalize (x :: xs) = insertDesc x (normalize xs) := rfl
    rw [this, insertDesc_mem, ih]; simp

def Desc : List Nat → Prop
  | [] => True
  | [_] => True
  | a :: b :: t => a > b ∧ Desc (b :: t)

theorem insertDesc_desc (x : Nat) (l : List Nat) (h : Desc l) : Desc (insertDesc x l) := by
  induction l with
  | nil => simp [insertDesc, Desc]
  | cons y ys ih =>
    simp only [insertDesc]
    split
    · exact ⟨by assumption, h⟩
    · split
      · exact h
      · rename_i h1 h2
        have hlt : y > x := by omega
        cases ys with
        | nil => simp [insertDesc, Desc, hlt]
        | cons z zs =>
          have hd : Desc (z :: zs) := h.2
          have := ih hd
          simp only [insertDesc] at this ⊢
          split
          · exact ⟨hlt, by assumption, hd⟩
          · split
            · exact h
            · rename_i h3 h4
              rw [if_neg h3, if_neg h4] at this
              exact ⟨h.1, this⟩

theorem normalize_desc (l : List Nat) : Desc (normalize l) := by
  induction l with
  | nil => simp [normalize, Desc]
  | cons x xs ih => exact insertDesc_desc x _ ih

theorem desc_length_le : ∀ (l : List Nat) (n : Nat), Desc l → (∀ x ∈ l.head?, x < n) → l.length ≤ n
  | [], _, _, _ => Nat.zero_le _
  | [a], _, _, hb => Nat.zero_lt_of_lt (hb a rfl)
  | a :: b :: t, n, hd, hb => by
    have := desc_length_le (b :: t) a hd.2 fun x hx => Option.some.inj hx ▸ hd.1
    have := hb a rfl
    simp only [List.length_cons] at *
    omega

theorem normalize_length_le_of_bounded (l : List Nat) (n : Nat) (h : ∀ x ∈ l, x < n) :
    (normalize l).length ≤ n :=
  desc_length_le _ n (normalize_desc l) fun x hx =>
    h x ((normalize_mem l x).mp (List.mem_of_mem_head? hx))

/-! sector counts, stated once so that no proof unfolds the 4 MiB literal -/

theorem numSectors_ceil {x n : Nat} (h : x = sectorSize * n) :
    (x + sectorSize - 1) / sectorSize = n := by
  simp only [sectorSize] at *
  omega

theorem numSectors_floor {x n : Nat} (h : x = sectorSize * n) : x / sectorSize = n := by
  simp only [sectorSize] at *
  omega

/-- `RPCReadSector` asks for the proof of the leaves `[offset / 64, ⌈(offset+length) / 64⌉)`.  When
the request ends on a leaf boundary and the `n` bytes of that range that exist in a sector of `S`
bytes are as many as were requested, the range is exactly the requested bytes. -/
theorem read_range_exact {offset length S : Nat} (hal : (offset + length) % leafSize = 0)
    (hle : offset + length ≤ S)
    (hn : length = min (leafSize * ((offset + length + leafSize - 1) / leafSize - offset / leafSize))
      (S - leafSize * (offset / leafSize))) :
    leafSize * (offset / leafSize) = offset ∧
    leafSize * ((offset + length + leafSize - 1) / leafSize - offset / leafSize) = length := by
  -- with `offset = 64 q + r` and `offset + length = 64 e` the range has `length + r` bytes, all
  -- of them inside the sector
  simp only [leafSize] at *
  omega

theorem sub64_exact {a b : Nat} (ha : a < 2 ^ 64) (hb : b ≤ a) : sub64 a b = a - b := by
  unfold sub64
  have : b % 2 ^ 64 = b := Nat.mod_eq_of_lt (by omega)
  rw [this]
  omega

section
variable {ρ : Type}
theorem acceptedRoots_length_le (roots : List ρ) (acc : List Bool) :
    (acceptedRoots roots acc).length ≤ roots.length := by
  induction roots generalizing acc with
  | nil => simp [acceptedRoots]
  | cons r rs ih =>
    cases acc with
    | nil => simp [acceptedRoots]
    | cons b bs =>
      simp only [acceptedRoots]
      split
      · simp only [List.length_cons]; have := ih bs; omega
      · simp only [List.length_cons]; have := ih bs; omega
end

theorem total_le_of_all_le (ds : List (Nat × Nat)) (t : Nat)
    (h : ds.any (fun d => decide (d.2 > t)) = false) : total ds ≤ t * ds.length := by
  induction ds with
  | nil => simp [total]
  | cons d ds ih =>
    simp only [List.any_cons, Bool.or_eq_false_iff, decide_eq_false_iff_not] at h
    have := ih h.2
    simp only [total, List.map_cons, List.sum_cons, List.length_cons] at *
    rw [Nat.mul_add]
    omega

end Verif.RhpClient
