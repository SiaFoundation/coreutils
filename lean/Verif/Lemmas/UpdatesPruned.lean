/-
`UpdatesSince` on a node that has pruned: a subscriber that stands on the best chain at or
above the last pruned height (`frontier - 1`) is served exactly as on an unpruned node — the walk
forward needs only bodies at or above the frontier.  (This is `PruneBlocks`' contract: prune only
below what every subscriber has processed.)
-/
import Verif.Lemmas.Prune
import Verif.Lemmas.Updates

namespace Verif.Chain

/-- the subscribers a pruned node can serve forward: on the best chain, not below the last
pruned height -/
def SubP (U : Nat → Blk) (m : Mgr) (p : Nat) (i : Nat) : Prop :=
  m.bestAt (U i).height = some i ∧ p ≤ (U i).height + 1

theorem nextUpd_pruned {U m p} (h : PInv U m p) {i : Nat} (hs : SubP U m p i) (hne : i ≠ m.tip) :
    ∃ n, nextUpd U m (some i) = .ok (.apply n, n) ∧ SubP U m p n ∧ par U n = i ∧
      (U n).height = (U i).height + 1 := by
  have hw := h.toWInv
  obtain ⟨hon, hp⟩ := hs
  obtain ⟨_, him, hlt⟩ := hw.bestAt_height hon
  have hlen := hw.length
  have hlt' : (U i).height < (U m.tip).height := by
    apply Nat.lt_of_le_of_ne (by omega)
    intro e
    have := hw.bestAt_of_mem hw.tip_mem
    rw [← e, hon] at this
    exact hne (Option.some.inj this)
  obtain ⟨n, hn⟩ : ∃ n, m.bestAt ((U i).height + 1) = some n := ⟨_, bestAt_of_lt (by omega)⟩
  obtain ⟨hnh, hnm, _⟩ := hw.bestAt_height hn
  obtain ⟨hpar, hn0⟩ := hw.bestAt_succ_parent hon hn
  have hrec := h.stored _ hnm (by omega)
  have hps : m.states (U n).parent = true := by
    rw [show (U n).parent = i from hpar]
    exact hw.best_state him
  refine ⟨n, ?_, ⟨by rw [hnh]; exact hn, by omega⟩, hpar, hnh⟩
  simp [nextUpd, onBestChain, hon, hn, Mgr.block, hrec, hps, hn0]

/-- **the loop on a pruned node**: for a subscriber on the best chain at or above the last pruned
height `UpdatesSince` never fails, returns only applies, each of the next best-chain block, at most
`max` of them, and ends at the tip unless `max` stops it -/
theorem updatesSince_pruned {U m p} (h : PInv U m p) (max : Nat) :
    ∀ (fuel i : Nat) (acc : List Upd), SubP U m p i → (U m.tip).height - (U i).height ≤ fuel →
      ∃ us i', updatesSince U m fuel (some i) max acc = .ok (acc ++ us) ∧
        walk U (some i) us = some (some i') ∧ SubP U m p i' ∧
        (∀ u ∈ us, ∃ b, u = .apply b) ∧
        (i' = m.tip ∨ (acc ++ us).length ≥ max) ∧ us.length ≤ max - acc.length := by
  have hw := h.toWInv
  intro fuel
  induction fuel with
  | zero =>
    intro i acc hs hf
    refine ⟨[], i, by simp [updatesSince], rfl, hs, by simp, Or.inl ?_, by simp⟩
    -- distance 0 on the best chain means the tip
    obtain ⟨hon, _⟩ := hs
    obtain ⟨_, him, _⟩ := hw.bestAt_height hon
    have hle := hw.mem_height_le him
    have e : (U i).height = (U m.tip).height := by omega
    have := hw.bestAt_of_mem hw.tip_mem
    rw [← e, hon] at this
    exact Option.some.inj this
  | succ fuel ih =>
    intro i acc hs hf
    by_cases hstop : some i = some m.tip ∨ acc.length ≥ max
    · rw [updatesSince_stop hstop]
      refine ⟨[], i, by simp, rfl, hs, by simp, ?_, by simp⟩
      rcases hstop with e | e
      · exact Or.inl (Option.some.inj e)
      · right; simpa using e
    · have hne : i ≠ m.tip := fun e => hstop (Or.inl (by rw [e]))
      have hlt : acc.length < max := Nat.lt_of_not_le fun x => hstop (Or.inr x)
      obtain ⟨n, n1, n2, n3, n4⟩ := nextUpd_pruned h hs hne
      rw [updatesSince_step (fun e => hne (Option.some.inj e)) hlt n1]
      obtain ⟨us, i', r1, r2, r3, r4, r5, r6⟩ := ih n (acc ++ [.apply n]) n2 (by omega)
      have hn0 : n ≠ 0 := by
        intro e
        rw [e, h.core.h0] at n4
        omega
      refine ⟨.apply n :: us, i', by simpa using r1, ?_, r3, ?_, by simpa using r5, ?_⟩
      · simp [walk, stepUpd, n3, hn0, r2]
      · intro u hu
        rcases List.mem_cons.mp hu with rfl | hu
        · exact ⟨n, rfl⟩
        · exact r4 u hu
      · simp only [List.length_append, List.length_cons, List.length_nil] at r6 ⊢
        omega

end Verif.Chain
