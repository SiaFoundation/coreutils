/-
Validity of the pool as a sequence (C05): mid-states up to membership, the re-validation loop,
the submission loops (v2: append at the end; v1: insertion in front of the v2 slice, which needs
that ids determine kind and content — the ideal-hash hypothesis `Conf`).  Core only.
-/
import Verif.Lemmas.Pool

namespace Verif.Pool

def MidState.Equiv (a b : MidState) : Prop :=
  (∀ e, e ∈ a.spent ↔ e ∈ b.spent) ∧ (∀ e, e ∈ a.created ↔ e ∈ b.created)

infix:50 " ≈ₘ " => MidState.Equiv

theorem MidState.Equiv.refl (a : MidState) : a ≈ₘ a := ⟨fun _ => Iff.rfl, fun _ => Iff.rfl⟩
theorem MidState.Equiv.symm {a b : MidState} (h : a ≈ₘ b) : b ≈ₘ a :=
  ⟨fun e => (h.1 e).symm, fun e => (h.2 e).symm⟩
theorem MidState.Equiv.trans {a b c : MidState} (h : a ≈ₘ b) (h' : b ≈ₘ c) : a ≈ₘ c :=
  ⟨fun e => (h.1 e).trans (h'.1 e), fun e => (h.2 e).trans (h'.2 e)⟩

theorem inputsOk_iff (l : Ledger) (c : List Nat) (v2 : Bool) : ∀ (is : List Inp) (s : List Nat),
    inputsOk l c v2 s is = true ↔
      (∀ i ∈ is, i.elem ∉ s) ∧ (∀ i ∈ is, inpRes l c v2 i = true) ∧ (is.map (·.elem)).Nodup
  | [], _ => by simp [inputsOk]
  | i :: is, s => by
    simp only [inputsOk, inpOk, Bool.and_eq_true, inputsOk_iff l c v2 is, Bool.not_eq_true', List.contains_eq_mem,
      decide_eq_false_iff_not, List.mem_cons, forall_eq_or_imp, not_or, List.map_cons, List.nodup_cons,
      List.mem_map, forall_and]
    constructor
    · rintro ⟨⟨a, b⟩, ⟨c1, c2⟩, d, e⟩
      exact ⟨⟨a, c2⟩, ⟨b, d⟩, fun ⟨j, hj, he⟩ => c1 j hj he, e⟩
    · rintro ⟨⟨a, c2⟩, ⟨b, d⟩, f, e⟩
      exact ⟨⟨a, b⟩, ⟨fun j hj he => f ⟨j, hj, he⟩, c2⟩, d, e⟩

theorem txValid_congr (cfg : Cfg) (l : Ledger) {ms ms' : MidState} (h : ms ≈ₘ ms') (v2 : Bool) (t : Txn) :
    txValid cfg l ms v2 t = txValid cfg l ms' v2 t := by
  unfold txValid
  congr 1
  rw [Bool.eq_iff_iff, inputsOk_iff, inputsOk_iff]
  simp only [inpRes, List.contains_eq_mem, h.1, h.2]

theorem mem_applyTx_spent {ms : MidState} {t : Txn} {e : Nat} :
    e ∈ (applyTx ms t).spent ↔ e ∈ t.inputs.map (·.elem) ∨ e ∈ ms.spent := by
  simp [applyTx]

theorem mem_applyTx_created {ms : MidState} {t : Txn} {e : Nat} :
    e ∈ (applyTx ms t).created ↔ e ∈ t.outputs ∨ e ∈ ms.created := by
  simp [applyTx]

theorem applyTx_congr {ms ms' : MidState} (h : ms ≈ₘ ms') (t : Txn) : applyTx ms t ≈ₘ applyTx ms' t :=
  ⟨fun e => by rw [mem_applyTx_spent, mem_applyTx_spent, h.1], fun e => by rw [mem_applyTx_created, mem_applyTx_created, h.2]⟩

theorem msOf_congr : ∀ (ts : List Txn) {ms ms' : MidState}, ms ≈ₘ ms' → msOf ms ts ≈ₘ msOf ms' ts
  | [], _, _, h => h
  | t :: ts, _, _, h => msOf_congr ts (applyTx_congr h t)

theorem seqValid_congr (cfg : Cfg) (l : Ledger) (v2 : Bool) : ∀ (ts : List Txn) {ms ms' : MidState}, ms ≈ₘ ms' →
    seqValid cfg l v2 ms ts = seqValid cfg l v2 ms' ts
  | [], _, _, _ => rfl
  | t :: ts, _, _, h => by
    rw [seqValid, seqValid, txValid_congr cfg l h, seqValid_congr cfg l v2 ts (applyTx_congr h t)]

theorem msOf_append (ms : MidState) : ∀ (a b : List Txn), msOf ms (a ++ b) = msOf (msOf ms a) b
  | [], _ => rfl
  | _ :: a, b => msOf_append _ a b

theorem seqValid_append (cfg : Cfg) (l : Ledger) (v2 : Bool) : ∀ (a b : List Txn) (ms : MidState),
    seqValid cfg l v2 ms (a ++ b) = (seqValid cfg l v2 ms a && seqValid cfg l v2 (msOf ms a) b)
  | [], _, _ => by simp [seqValid, msOf]
  | t :: a, b, ms => by simp [seqValid, msOf, seqValid_append cfg l v2 a b, Bool.and_assoc]

def spentOf (ts : List Txn) : List Nat := ts.flatMap fun t => t.inputs.map (·.elem)
def createdOf (ts : List Txn) : List Nat := ts.flatMap (·.outputs)

@[simp] theorem spentOf_nil : spentOf [] = [] := rfl
@[simp] theorem createdOf_nil : createdOf [] = [] := rfl
theorem spentOf_cons (t : Txn) (L : List Txn) : spentOf (t :: L) = t.inputs.map (·.elem) ++ spentOf L :=
  List.flatMap_cons
theorem spentOf_append (a b : List Txn) : spentOf (a ++ b) = spentOf a ++ spentOf b := by simp [spentOf]
theorem createdOf_append (a b : List Txn) : createdOf (a ++ b) = createdOf a ++ createdOf b := by simp [createdOf]
theorem mem_spentOf {ts : List Txn} {e : Nat} : e ∈ spentOf ts ↔ ∃ t ∈ ts, ∃ i ∈ t.inputs, i.elem = e := by
  simp [spentOf]
theorem mem_createdOf {ts : List Txn} {e : Nat} : e ∈ createdOf ts ↔ ∃ t ∈ ts, e ∈ t.outputs := by
  simp [createdOf]

theorem mem_msOf_spent : ∀ (ts : List Txn) (ms : MidState) (e : Nat),
    e ∈ (msOf ms ts).spent ↔ e ∈ ms.spent ∨ e ∈ spentOf ts
  | [], ms, e => by simp [msOf]
  | t :: ts, ms, e => by
    rw [msOf, mem_msOf_spent ts, mem_applyTx_spent, or_assoc, or_left_comm]
    exact or_congr_right List.mem_append.symm

theorem mem_msOf_created : ∀ (ts : List Txn) (ms : MidState) (e : Nat),
    e ∈ (msOf ms ts).created ↔ e ∈ ms.created ∨ e ∈ createdOf ts
  | [], ms, e => by simp [msOf]
  | t :: ts, ms, e => by
    rw [msOf, mem_msOf_created ts, mem_applyTx_created, or_assoc, or_left_comm]
    exact or_congr_right List.mem_append.symm

theorem mem_empty_msOf_spent (ts : List Txn) (e : Nat) : e ∈ (msOf MidState.empty ts).spent ↔ e ∈ spentOf ts := by
  simp [mem_msOf_spent, MidState.empty]
theorem mem_empty_msOf_created (ts : List Txn) (e : Nat) : e ∈ (msOf MidState.empty ts).created ↔ e ∈ createdOf ts := by
  simp [mem_msOf_created, MidState.empty]

theorem msOf_perm (ms : MidState) {ts ts' : List Txn} (h : ts.Perm ts') : msOf ms ts ≈ₘ msOf ms ts' :=
  ⟨fun e => by simp only [mem_msOf_spent, mem_spentOf, h.mem_iff],
   fun e => by simp only [mem_msOf_created, mem_createdOf, h.mem_iff]⟩

structure AccValid (cfg : Cfg) (l : Ledger) (v2 : Bool) (base : MidState) (a : Acc) : Prop where
  ms : a.ms ≈ₘ msOf base a.kept
  valid : seqValid cfg l v2 base a.kept = true

theorem AccValid.push {cfg l v2 base a} (h : AccValid cfg l v2 base a) (t : Txn)
    (hv : txValid cfg l a.ms v2 t = true) : AccValid cfg l v2 base (push a t) := by
  constructor
  · simp only [Verif.Pool.push, msOf_append, msOf]
    exact applyTx_congr h.ms t
  · simp only [Verif.Pool.push, seqValid_append, h.valid, seqValid, Bool.true_and, Bool.and_true]
    rw [← txValid_congr cfg l h.ms]; exact hv

theorem refill_accValid {cfg l v2 base} (ts : List Txn) (a : Acc) (h : AccValid cfg l v2 base a) :
    AccValid cfg l v2 base (refill cfg l v2 a ts) :=
  refill_induct ts a (fun _ t _ _ hv h => h.push t hv) h

/-- the pool is a valid sequence and its mid-state is the mid-state of that sequence -/
structure Valid (cfg : Cfg) (p : Pool) : Prop where
  ms : ∃ ms, p.ms = some ms ∧ ms ≈ₘ msOf MidState.empty (p.txns ++ p.v2txns)
  v1 : seqValid cfg p.led false MidState.empty p.txns = true
  v2 : seqValid cfg p.led true (msOf MidState.empty p.txns) p.v2txns = true

theorem rebuild_valid (cfg : Cfg) (p : Pool) : Valid cfg (rebuild cfg p) := by
  obtain ⟨a1, a2, e1, e2, e⟩ := rebuild_eq cfg p
  have h1 : AccValid cfg p.led false MidState.empty a1 := e1 ▸ refill_accValid _ _ ⟨MidState.Equiv.refl _, rfl⟩
  have h2 : AccValid cfg p.led true (msOf MidState.empty a1.kept) a2 := e2 ▸ refill_accValid _ _ ⟨h1.ms, rfl⟩
  exact e ▸ ⟨⟨_, rfl, msOf_append _ _ _ ▸ h2.ms⟩, h1.valid, h2.valid⟩

theorem inputsOk_weaken (l : Ledger) (c c' : List Nat) (v2 : Bool) (is : List Inp) (s s' : List Nat)
    (h : inputsOk l c v2 s is = true)
    (hs : ∀ i ∈ is, i.elem ∈ s' → i.elem ∈ s)
    (hr : ∀ i ∈ is, inpRes l c v2 i = true → inpRes l c' v2 i = true) :
    inputsOk l c' v2 s' is = true := by
  obtain ⟨h1, h2, h3⟩ := (inputsOk_iff l c v2 is s).1 h
  exact (inputsOk_iff l c' v2 is s').2 ⟨fun i hi hm => h1 i hi (hs i hi hm), fun i hi => hr i hi (h2 i hi), h3⟩

theorem inpRes_mono (l : Ledger) {c c' : List Nat} (h : ∀ e, e ∈ c → e ∈ c') (v2 : Bool) (i : Inp) :
    inpRes l c v2 i = true → inpRes l c' v2 i = true := by
  unfold inpRes
  cases v2
  · simp only [Bool.false_eq_true, ↓reduceIte, Bool.or_eq_true, List.contains_eq_mem, decide_eq_true_eq]
    exact Or.imp_left (h _)
  · simp only [↓reduceIte]
    cases i.leaf with
    | none => simpa only [List.contains_eq_mem, decide_eq_true_eq] using h _
    | some lf => exact id

theorem seqValid_weaken (cfg : Cfg) (l : Ledger) (v2 : Bool) : ∀ (ts : List Txn) (m m' : MidState),
    seqValid cfg l v2 m ts = true →
    (∀ e ∈ spentOf ts, e ∈ m'.spent → e ∈ m.spent) →
    (∀ e, e ∈ m.created → e ∈ m'.created) →
    seqValid cfg l v2 m' ts = true
  | [], _, _, _, _, _ => rfl
  | t :: ts, m, m', h, hs, hc => by
    simp only [seqValid, txValid, Bool.and_eq_true] at h ⊢
    have hs' : ∀ e, e ∈ t.inputs.map (·.elem) ∨ e ∈ spentOf ts → e ∈ m'.spent → e ∈ m.spent :=
      fun e he => hs e (List.mem_append.2 he)
    refine ⟨⟨h.1.1, inputsOk_weaken l _ _ v2 _ _ _ h.1.2 (fun i hi => hs' _ (Or.inl (List.mem_map_of_mem hi)))
      fun i _ => inpRes_mono l hc v2 i⟩, seqValid_weaken cfg l v2 ts _ _ h.2 (fun e he => ?_) fun e => ?_⟩
    · rw [mem_applyTx_spent, mem_applyTx_spent]
      exact Or.imp_right (hs' e (Or.inr he))
    · rw [mem_applyTx_created, mem_applyTx_created]
      exact Or.imp_right (hc e)

/-- `S` is the (ideal) hash pre-image: the kind, the input elements and the outputs of the
transaction with a given id -/
def Conf (S : Nat → Bool × List Nat × List Nat) (v2 : Bool) (t : Txn) : Prop :=
  S t.id = (v2, t.inputs.map (·.elem), t.outputs)

theorem Conf.mapInputs {S v2 t} (h : Conf S v2 t) (f : Inp → Inp) (hf : ∀ i, (f i).elem = i.elem) :
    Conf S v2 (mapInputs f t) := by
  unfold Conf at h ⊢
  simp only [Verif.Pool.mapInputs, List.map_map, h, Function.comp_def, hf]

theorem Conf.inj {S v v' t u} (ht : Conf S v t) (hu : Conf S v' u) (e : t.id = u.id) :
    v = v' ∧ t.outputs = u.outputs := by
  unfold Conf at ht hu
  rw [e, hu] at ht
  simp only [Prod.mk.injEq] at ht
  exact ⟨ht.1.symm, ht.2.2.symm⟩

theorem Conf.kind_ne {S : Nat → Bool × List Nat × List Nat} {t u : Txn} (ht : Conf S false t) (hu : Conf S true u) :
    t.id ≠ u.id :=
  fun e => Bool.noConfusion (ht.inj hu e).1

theorem insert_valid {cfg : Cfg} {l : Ledger} {K B : List Txn} {m : MidState} {t : Txn}
    (hm : m ≈ₘ msOf MidState.empty (K ++ B))
    (h1 : seqValid cfg l false MidState.empty K = true)
    (h2 : seqValid cfg l true (msOf MidState.empty K) B = true)
    (hv : txValid cfg l m false t = true)
    (hres : ∀ i ∈ t.inputs, inpRes l (createdOf K) false i = true) :
    applyTx m t ≈ₘ msOf MidState.empty ((K ++ [t]) ++ B) ∧
    seqValid cfg l false MidState.empty (K ++ [t]) = true ∧
    seqValid cfg l true (msOf MidState.empty (K ++ [t])) B = true := by
  simp only [txValid, Bool.and_eq_true] at hv
  obtain ⟨fa, -, -⟩ := (inputsOk_iff l m.created false t.inputs m.spent).1 hv.2
  have hnot : ∀ i ∈ t.inputs, i.elem ∉ spentOf K ∧ i.elem ∉ spentOf B := fun i hi =>
    not_or.1 fun hm' => fa i hi ((hm.1 _).2 ((mem_empty_msOf_spent _ _).2 (spentOf_append K B ▸ List.mem_append.2 hm')))
  refine ⟨?_, ?_, ?_⟩
  · -- `t` is applied last but reported in the middle
    have hp : ((K ++ B) ++ [t]).Perm ((K ++ [t]) ++ B) := by
      rw [List.append_assoc, List.append_assoc]
      exact List.perm_append_comm.append_left _
    have := msOf_perm MidState.empty hp
    rw [msOf_append] at this
    exact (applyTx_congr hm t).trans this
  · simp only [seqValid_append, h1, seqValid, txValid, Bool.true_and, Bool.and_true, Bool.and_eq_true]
    exact ⟨hv.1, inputsOk_weaken l m.created _ false t.inputs m.spent _ hv.2
      (fun i hi hm' => absurd ((mem_empty_msOf_spent _ _).1 hm') (hnot i hi).1)
      fun i hi _ => inpRes_mono l (fun e => (mem_empty_msOf_created _ _).2) false i (hres i hi)⟩
  · simp only [msOf_append, msOf]
    refine seqValid_weaken cfg l true B _ _ h2 (fun e he hm' => ?_) fun e he => mem_applyTx_created.2 (Or.inr he)
    rcases mem_applyTx_spent.1 hm' with hm' | hm'
    · obtain ⟨i, hi, rfl⟩ := List.mem_map.1 hm'
      exact absurd he (hnot i hi).2
    · exact hm'

/-- **the v1 submission loop keeps the reported order valid**: a v1 transaction is validated after
everything pooled (v1 and v2) but inserted in front of the v2 slice `B`. -/
theorem addLoop_v1_valid (cfg : Cfg) (l : Ledger) (S : Nat → Bool × List Nat × List Nat) (B : List Txn)
    (hB : ∀ u ∈ B, Conf S true u) : ∀ (ts : List Txn) (done : MidState) (a : Acc),
    seqValid cfg l false done ts = true →
    (∀ t ∈ ts, Conf S false t) →
    (∀ e, e ∈ done.created → e ∈ createdOf a.kept) →
    AccIdx B a → (∀ t ∈ a.kept, Conf S false t) →
    a.ms ≈ₘ msOf MidState.empty (a.kept ++ B) →
    seqValid cfg l false MidState.empty a.kept = true →
    seqValid cfg l true (msOf MidState.empty a.kept) B = true →
    (addLoop cfg l false a ts).1.ms ≈ₘ msOf MidState.empty ((addLoop cfg l false a ts).1.kept ++ B) ∧
    seqValid cfg l false MidState.empty (addLoop cfg l false a ts).1.kept = true ∧
    seqValid cfg l true (msOf MidState.empty (addLoop cfg l false a ts).1.kept) B = true
  | [], _, a, _, _, _, _, _, hms, h1, h2 => ⟨hms, h1, h2⟩
  | t :: ts, done, a, hset, hconf, hK, hidx, hkc, hms, h1, h2 => by
    simp only [seqValid, Bool.and_eq_true] at hset
    obtain ⟨htv, hrest⟩ := hset
    have htc : Conf S false t := hconf t List.mem_cons_self
    have hconf' : ∀ u ∈ ts, Conf S false u := fun u hu => hconf u (List.mem_cons_of_mem _ hu)
    unfold addLoop
    split
    · -- skipped: `t` is already pooled, in the v1 slice, with the same outputs
      rename_i hk
      refine addLoop_v1_valid cfg l S B hB ts (applyTx done t) a hrest hconf' (fun e he => ?_) hidx hkc hms h1 h2
      rcases mem_applyTx_created.1 he with he | he
      · obtain ⟨u, hu, hid⟩ := List.mem_map.1 (hidx.mem t.id hk)
        rcases List.mem_append.1 hu with hu | hu
        · exact absurd hid.symm (htc.kind_ne (hB u hu))
        · exact mem_createdOf.2 ⟨u, hu, (htc.inj (hkc u hu) hid.symm).2 ▸ he⟩
      · exact hK e he
    rename_i hk
    split
    case isFalse => exact ⟨hms, h1, h2⟩
    rename_i hv
    -- within the set, the inputs of `t` resolve on the ledger or in outputs of earlier members,
    -- which are all pooled in `a.kept`
    simp only [txValid, Bool.and_eq_true] at htv
    obtain ⟨-, fb, -⟩ := (inputsOk_iff l done.created false t.inputs done.spent).1 htv.2
    obtain ⟨k1, k2, k3⟩ := insert_valid hms h1 h2 hv fun i hi => inpRes_mono l hK false i (fb i hi)
    refine addLoop_v1_valid cfg l S B hB ts (applyTx done t) (push a t) hrest hconf' (fun e he => ?_)
      (hidx.push t (by simpa using hk)) (fun u hu => ?_) k1 k2 k3
    · rw [push, createdOf_append, List.mem_append]
      exact (mem_applyTx_created.1 he).elim (fun he => Or.inr (mem_createdOf.2 ⟨t, List.mem_singleton_self t, he⟩))
        fun he => Or.inl (hK e he)
    · rcases List.mem_append.1 hu with hu | hu
      · exact hkc u hu
      · exact List.mem_singleton.1 hu ▸ htc

/-- every transaction in the two slices and among those remembered for re-offer is the pre-image
`S` names for its id, of the kind of the list it is in -/
structure PoolConf (S : Nat → Bool × List Nat × List Nat) (p : Pool) : Prop where
  t1 : ∀ t ∈ p.txns, Conf S false t
  t2 : ∀ t ∈ p.v2txns, Conf S true t
  r1 : ∀ t ∈ p.lastReverted, Conf S false t
  r2 : ∀ t ∈ p.lastRevertedV2, Conf S true t

theorem addSet_valid (cfg : Cfg) (S : Nat → Bool × List Nat × List Nat) (v2 : Bool) (p : Pool) (set : List Txn)
    (hv : Valid cfg p) (hi : IdxOK p) (hc : PoolConf S p) (hs : ∀ t ∈ set, Conf S v2 t) :
    (addSet cfg v2 p set).1.ms.isSome = true → Valid cfg (addSet cfg v2 p set).1 := by
  unfold addSet
  rw [checkTxnSet_eq]
  split
  · exact fun _ => hv
  · exact fun _ => hv
  rename_i hchk
  have hsv : seqValid cfg p.led v2 MidState.empty set = true := by
    split at hchk
    · assumption
    · cases hchk
  obtain ⟨ms, hmse, hmsq⟩ := hv.ms
  simp only [hmse]
  cases v2
  · -- v1: inserted in front of the v2 slice
    have key := addLoop_v1_valid cfg p.led S p.v2txns hc.t2 set MidState.empty ⟨ms, p.indices, p.weight, p.txns⟩
      hsv hs (fun _ he => nomatch he) ((idxOK_iff_accIdx false p _ rfl rfl).1 hi) hc.t1 hmsq hv.v1 hv.v2
    simp only [Bool.false_eq_true, ↓reduceIte]
    generalize addLoop cfg p.led false ⟨ms, p.indices, p.weight, p.txns⟩ set = r at key
    obtain ⟨a, b⟩ := r
    cases b
    · exact fun h => nomatch h
    · exact fun _ => ⟨⟨a.ms, rfl, key.1⟩, key.2.1, key.2.2⟩
  · -- v2: appended at the very end
    have key : AccValid cfg p.led true (msOf MidState.empty p.txns) _ :=
      addLoop_induct set ⟨ms, p.indices, p.weight, p.v2txns⟩ (fun _ t _ _ hv h => h.push t hv)
        ⟨by simpa only [msOf_append] using hmsq, hv.v2⟩
    simp only [↓reduceIte]
    generalize addLoop cfg p.led true ⟨ms, p.indices, p.weight, p.v2txns⟩ set = r at key
    obtain ⟨a, b⟩ := r
    cases b
    · exact fun h => nomatch h
    · exact fun _ => ⟨⟨a.ms, rfl, by rw [msOf_append]; exact key.ms⟩, hv.v1, key.valid⟩

theorem Conf.map {S v2} {ts : List Txn} (h : ∀ t ∈ ts, Conf S v2 t) (f : Inp → Inp) (hf : ∀ i, (f i).elem = i.elem) :
    ∀ t ∈ ts.map (Verif.Pool.mapInputs f), Conf S v2 t := by
  intro t ht
  obtain ⟨u, hu, rfl⟩ := List.mem_map.1 ht
  exact (h u hu).mapInputs f hf

theorem refill_kept_sub {cfg l v2} (ts : List Txn) (a : Acc) (t : Txn) (h : t ∈ (refill cfg l v2 a ts).kept) :
    t ∈ a.kept ∨ t ∈ ts :=
  refill_induct (P := fun a' => ∀ t ∈ a'.kept, t ∈ a.kept ∨ t ∈ ts) ts a
    (fun _ _ hu _ _ h t ht => (List.mem_append.1 ht).elim (h t) fun ht => Or.inr (List.mem_singleton.1 ht ▸ hu))
    (fun _ => Or.inl) t h

theorem keepIdx_sub (ts : List Txn) (keep : List Nat) (t : Txn) (h : t ∈ keepIdx ts keep) : t ∈ ts := by
  obtain ⟨⟨_, i⟩, hm, hu⟩ := List.mem_filterMap.1 h
  simp only at hu
  split at hu
  · cases hu; exact List.fst_mem_of_mem_zipIdx hm
  · cases hu

theorem evict_conf {S cfg p} (h : PoolConf S p) : PoolConf S (evict cfg p) :=
  ⟨fun t ht => h.t1 t (keepIdx_sub _ _ t ht), fun t ht => h.t2 t (keepIdx_sub _ _ t ht), h.r1, h.r2⟩

theorem rebuild_conf {S cfg p} (h : PoolConf S p) : PoolConf S (rebuild cfg p) := by
  refine ⟨fun t ht => ?_, fun t ht => ?_, (fun _ ht => nomatch ht), (fun _ ht => nomatch ht)⟩
  · exact (refill_kept_sub _ _ t ht).elim (fun h' => nomatch h') fun h' => (List.mem_append.1 h').elim (h.t1 t) (h.r1 t)
  · exact (refill_kept_sub _ _ t ht).elim (fun h' => nomatch h') fun h' => (List.mem_append.1 h').elim (h.t2 t) (h.r2 t)

theorem revalidate_conf {S cfg p} (h : PoolConf S p) : PoolConf S (revalidate cfg p) :=
  revalidate_induct (Q := PoolConf S) (fun _ => h) fun _ hq => rebuild_conf (hq.elim (· ▸ h) (· ▸ evict_conf h))

theorem confirmInp_elem (c : List (Nat × Nat)) (i : Inp) : (confirmInp c i).elem = i.elem := by
  unfold confirmInp
  split
  · rfl
  · split <;> rfl

theorem unconfirmInp_elem (c : List (Nat × Nat)) (i : Inp) : (unconfirmInp c i).elem = i.elem := by
  unfold unconfirmInp
  split
  · rfl
  · split <;> rfl

theorem applyPoolUpdate_conf {S p} (b : Blk) (h : PoolConf S p) : PoolConf S (applyPoolUpdate p b) :=
  ⟨h.t1, fun t ht => Conf.map h.t2 _ (confirmInp_elem _) t (List.mem_filter.1 ht).1, h.r1, h.r2⟩

theorem revertPoolUpdate_conf {S p} (b : Blk) (h : PoolConf S p) : PoolConf S (revertPoolUpdate p b) :=
  ⟨h.t1, fun t ht => Conf.map h.t2 _ (unconfirmInp_elem _) t (List.mem_filter.1 ht).1, h.r1, h.r2⟩

theorem zipBad_cons (u : Txn) (ts : List Txn) (fl : List Bool) :
    zipBad (u :: ts) fl = setBad (fl.headD true) u :: zipBad ts fl.tail := by
  cases fl <;> rfl

theorem zipBad_conf {S} : ∀ (ts : List Txn) (fl : List Bool), (∀ t ∈ ts, Conf S true t) →
    ∀ t ∈ zipBad ts fl, Conf S true t
  | [], _, _, _, ht => nomatch ht
  | u :: ts, fl, h, t, ht => by
    rw [zipBad_cons, List.mem_cons] at ht
    rcases ht with rfl | ht
    · exact (h u List.mem_cons_self).mapInputs _ fun _ => rfl
    · exact zipBad_conf ts _ (fun x hx => h x (List.mem_cons_of_mem _ hx)) t ht

/-- the same for the transactions of a block (they are re-offered when the block is reverted) -/
def BlkConf (S : Nat → Bool × List Nat × List Nat) (b : Blk) : Prop :=
  (∀ t ∈ b.txns, Conf S false t) ∧ (∀ t ∈ b.v2txns, Conf S true t)

/-- the hypothesis on histories: every submitted transaction and every transaction of a reverted
block is the pre-image of its id (hence v1 / v2 ids differ, `Conf.kind_ne`) -/
def OpConf (S : Nat → Bool × List Nat × List Nat) : Op → Prop
  | .reorg rev _ _ => ∀ b ∈ rev, BlkConf S b
  | .addV1 set => ∀ t ∈ set, Conf S false t
  | .addV2 _ set => ∀ t ∈ set, Conf S true t
  | .query => True

theorem reorg_conf {S p} (rev app : List Blk) (flags : List Bool) (h : PoolConf S p) (hr : ∀ b ∈ rev, BlkConf S b) :
    PoolConf S (reorg p rev app flags) := by
  have h2 := List.foldlRecOn app applyPoolUpdate
    (List.foldlRecOn rev revertPoolUpdate h fun _ hp b _ => revertPoolUpdate_conf b hp)
    fun _ hp b _ => applyPoolUpdate_conf b hp
  unfold reorg reorgEnd
  cases hh : rev.head? with
  | none => exact ⟨h2.t1, h2.t2, h2.r1, zipBad_conf _ _ h2.r2⟩
  | some b =>
    have hb : BlkConf S b := hr b (List.mem_of_mem_head? hh)
    exact ⟨h2.t1, h2.t2, fun t ht => hb.1 t (List.mem_filter.1 ht).1,
      zipBad_conf _ _ fun t ht => hb.2 t (List.mem_filter.1 ht).1⟩

theorem foldOpt_induct {α β} {P : α → Prop} {f : α → β → Option α} (hf : ∀ a b a', f a b = some a' → P a → P a') :
    ∀ (bs : List β) (a a' : α), foldOpt f (some a) bs = some a' → P a → P a'
  | [], _, _, h, ha => Option.some.inj h ▸ ha
  | b :: bs, a, a', h, ha => by
    rw [foldOpt] at h
    cases hb : f a b with
    | none => rw [hb] at h; cases bs <;> cases h
    | some a1 => exact foldOpt_induct hf bs a1 a' (hb ▸ h) (hf a b a1 hb ha)

theorem rebase_conf {S cfg} (ts : List Txn) (path : Option (List Blk × List Blk)) (ts' : List Txn)
    (h : rebase cfg ts path = some ts') (hc : ∀ t ∈ ts, Conf S true t) : ∀ t ∈ ts', Conf S true t := by
  unfold rebase at h
  split at h
  · cases h
  rename_i rev app
  split at h
  · cases h
  split at h
  · cases h
  cases hr : foldOpt rebaseRevert (some ts) rev with
  | none => rw [hr] at h; cases app <;> cases h
  | some ts1 =>
    rw [hr] at h
    refine foldOpt_induct (P := fun ts => ∀ t ∈ ts, Conf S true t) (fun a b a' hab ha => ?_) app ts1 ts' h
      (foldOpt_induct (P := fun ts => ∀ t ∈ ts, Conf S true t) (fun a b a' hab ha => ?_) rev ts ts1 hr hc)
    · simp only [rebaseApply] at hab
      split at hab <;> cases hab
      exact Conf.map (fun u hu => ha u (List.mem_filter.1 hu).1) _ (confirmInp_elem _)
    · unfold rebaseRevert at hab
      split at hab <;> cases hab
      exact ha

theorem AddOutcome.conf {S cfg v2 p set r} (h : AddOutcome cfg v2 p set r) (hc : PoolConf S p)
    (hs : ∀ t ∈ set, Conf S v2 t) : PoolConf S r.1 := by
  cases h with
  | invalid _ | known _ _ => exact hc
  | conflict p' _ _ h1 h2 _ _ _ h3 h4 _ => exact ⟨h1 ▸ hc.t1, h2 ▸ hc.t2, h3 ▸ hc.r1, h4 ▸ hc.r2⟩
  | added p' new _ h1 h2 _ hsub _ _ _ _ _ h3 h4 _ _ =>
    have hown : ∀ t ∈ own v2 p', t ∈ own v2 p ∨ t ∈ set := fun t ht =>
      (List.mem_append.1 (h1 ▸ ht)).imp_right fun ht => hsub.subset ht
    cases v2
    · exact ⟨fun t ht => (hown t ht).elim (hc.t1 t) (hs t), (show p'.v2txns = p.v2txns from h2) ▸ hc.t2,
        h3 ▸ hc.r1, h4 ▸ hc.r2⟩
    · exact ⟨(show p'.txns = p.txns from h2) ▸ hc.t1, fun t ht => (hown t ht).elim (hc.t2 t) (hs t),
        h3 ▸ hc.r1, h4 ▸ hc.r2⟩

/-- the invariant of C05 carried through histories -/
def InvV (cfg : Cfg) (S : Nat → Bool × List Nat × List Nat) (p : Pool) : Prop :=
  PoolConf S p ∧ (p.ms.isSome = true → IdxOK p ∧ Valid cfg p)

theorem revalidate_good {cfg S p} (h : InvV cfg S p) :
    PoolConf S (revalidate cfg p) ∧ IdxOK (revalidate cfg p) ∧ Valid cfg (revalidate cfg p) :=
  ⟨revalidate_conf h.1, revalidate_idxOK cfg p fun hc => (h.2 hc).1,
    revalidate_induct (Q := Valid cfg) (fun hc => (h.2 hc).2) fun q _ => rebuild_valid cfg q⟩

theorem step_invV {cfg S p} (h : InvV cfg S p) (op : Op) (hop : OpConf S op) : InvV cfg S (step cfg p op) := by
  obtain ⟨gc, gi, gv⟩ := revalidate_good h
  cases op with
  | reorg rev app flags =>
    exact ⟨reorg_conf rev app flags h.1 hop, fun hc => by simp [step, reorg_ms] at hc⟩
  | addV1 set =>
    have ho := addSet_outcome cfg false _ set (revalidate_ms cfg p)
    refine ⟨ho.conf gc hop, fun hc => ⟨ho.inv gi hc, addSet_valid cfg S false _ set gv gi gc hop hc⟩⟩
  | addV2 path set =>
    simp only [step, addV2PoolTransactions]
    cases hr : rebase cfg set path with
    | none => exact ⟨gc, fun _ => ⟨gi, gv⟩⟩
    | some set' =>
      have hs' := rebase_conf set path set' hr hop
      have ho := addSet_outcome cfg true _ set' (revalidate_ms cfg p)
      exact ⟨ho.conf gc hs', fun hc => ⟨ho.inv gi hc, addSet_valid cfg S true _ set' gv gi gc hs' hc⟩⟩
  | query => exact ⟨gc, fun _ => ⟨gi, gv⟩⟩

theorem run_invV {cfg S} (ops : List Op) (p : Pool) (h : InvV cfg S p) (hops : ∀ op ∈ ops, OpConf S op) :
    InvV cfg S (run cfg p ops) :=
  List.foldlRecOn ops (step cfg) h fun _ h op hop => step_invV h op (hops op hop)

theorem init_invV (cfg : Cfg) (S : Nat → Bool × List Nat × List Nat) (l : Ledger) : InvV cfg S (Pool.init l) :=
  ⟨⟨by simp [Pool.init], by simp [Pool.init], by simp [Pool.init], by simp [Pool.init]⟩, fun h => by simp [Pool.init] at h⟩

theorem seqValid_at (cfg : Cfg) (l : Ledger) (v2 : Bool) (ms : MidState) (pre : List Txn) (t : Txn) (post : List Txn)
    (h : seqValid cfg l v2 ms (pre ++ t :: post) = true) : txValid cfg l (msOf ms pre) v2 t = true := by
  simp only [seqValid_append, seqValid, Bool.and_eq_true] at h
  exact h.2.1

theorem seqValid_prefix (cfg : Cfg) (l : Ledger) (v2 : Bool) (ms : MidState) {a ts : List Txn} (hp : a <+: ts)
    (h : seqValid cfg l v2 ms ts = true) : seqValid cfg l v2 ms a = true := by
  obtain ⟨c, rfl⟩ := hp
  simp only [seqValid_append, Bool.and_eq_true] at h
  exact h.1

theorem seqValid_nodup (cfg : Cfg) (l : Ledger) (v2 : Bool) : ∀ (ts : List Txn) (ms : MidState),
    seqValid cfg l v2 ms ts = true → (spentOf ts).Nodup ∧ ∀ e ∈ spentOf ts, e ∉ ms.spent
  | [], _, _ => by simp
  | t :: ts, ms, h => by
    simp only [seqValid, txValid, Bool.and_eq_true] at h
    obtain ⟨fa, -, fc⟩ := (inputsOk_iff l ms.created v2 t.inputs ms.spent).1 h.1.2
    obtain ⟨ih1, ih2⟩ := seqValid_nodup cfg l v2 ts (applyTx ms t) h.2
    simp only [mem_applyTx_spent, not_or] at ih2
    show (t.inputs.map (·.elem) ++ spentOf ts).Nodup ∧ ∀ e ∈ t.inputs.map (·.elem) ++ spentOf ts, e ∉ ms.spent
    refine ⟨List.nodup_append.2 ⟨fc, ih1, fun a ha b hb hab => (ih2 b hb).1 (hab ▸ ha)⟩, fun e he => ?_⟩
    rcases List.mem_append.1 he with he | he
    · obtain ⟨i, hi, rfl⟩ := List.mem_map.1 he
      exact fa i hi
    · exact (ih2 e he).2

/-- a sequence containing a transaction consensus rejects on its own account is not valid -/
theorem seqValid_false_of_not_ok (cfg : Cfg) (l : Ledger) (v2 : Bool) (set : List Txn) (ms : MidState) (t : Txn)
    (ht : t ∈ set) (hok : t.ok = false) : seqValid cfg l v2 ms set = false := by
  obtain ⟨pre, post, rfl⟩ := List.append_of_mem ht
  refine Bool.eq_false_iff.2 fun h => ?_
  have := seqValid_at cfg l v2 ms pre t post h
  rw [txValid, hok] at this
  cases this

end Verif.Pool
