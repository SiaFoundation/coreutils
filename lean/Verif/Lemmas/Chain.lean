/-
M2, the chain manager: parent chains, the correctness of the two-pointer `reorgPath`, the shape
every manager invariant has (`WInv`) with the tip and height facts it gives, and what `revertN` /
`applyTip` / `reorgTo` / the loop of `AddBlocks` / `PruneBlocks` do to the manager.  Which
properties they keep is in Lemmas/ChainKept.lean.
-/
import Verif.Model.Chain

namespace Verif.Chain

def par (U : Nat → Blk) (i : Nat) : Nat := (U i).parent

/-- `anc U k i` is the `k`-th ancestor of `i` -/
def anc (U : Nat → Blk) : Nat → Nat → Nat
  | 0, i => i
  | k + 1, i => anc U k (par U i)

@[simp] theorem anc_zero (U : Nat → Blk) (i : Nat) : anc U 0 i = i := rfl
theorem anc_succ (U : Nat → Blk) (k i : Nat) : anc U (k + 1) i = anc U k (par U i) := rfl

theorem anc_succ' (U : Nat → Blk) (k i : Nat) : anc U (k + 1) i = par U (anc U k i) := by
  induction k generalizing i with
  | zero => rfl
  | succ k ih => rw [anc_succ, ih]; rfl

theorem anc_add (U : Nat → Blk) (j k i : Nat) : anc U (j + k) i = anc U j (anc U k i) := by
  induction k generalizing i with
  | zero => rfl
  | succ k ih => rw [← Nat.add_assoc, anc_succ, ih, anc_succ]

/-- a best chain: tip first, parent-linked, ending in genesis (id 0) -/
inductive Chain (U : Nat → Blk) : List Nat → Prop
  | gen : Chain U [0]
  | cons {a b : Nat} {t : List Nat} : a ≠ 0 → par U a = b → Chain U (b :: t) → Chain U (a :: b :: t)

theorem Chain.ne_nil {U : Nat → Blk} {l : List Nat} (h : Chain U l) : l ≠ [] := by
  cases h <;> simp

theorem Chain.unique {U : Nat → Blk} {l₁ l₂ : List Nat} (h₁ : Chain U l₁) (h₂ : Chain U l₂)
    (hh : l₁.head? = l₂.head?) : l₁ = l₂ := by
  induction h₁ generalizing l₂ with
  | gen =>
    cases h₂ with
    | gen => rfl
    | cons ha _ _ => simp at hh; exact absurd hh.symm ha
  | @cons a b t ha hp _ ih =>
    cases h₂ with
    | gen => simp at hh; exact absurd hh ha
    | @cons a' b' t' ha' hp' ht' =>
      simp at hh
      subst hh
      have hb : b = b' := by rw [← hp, ← hp']
      subst hb
      have := ih ht' rfl
      simp_all

theorem Chain.tail {U : Nat → Blk} {a b : Nat} {t : List Nat} (h : Chain U (a :: b :: t)) :
    Chain U (b :: t) ∧ a ≠ 0 ∧ par U a = b := by
  cases h with
  | cons ha hp ht => exact ⟨ht, ha, hp⟩

theorem Chain.push {U : Nat → Blk} {a : Nat} {l : List Nat} (h : Chain U l) (ha : a ≠ 0)
    (hp : l.head? = some (par U a)) : Chain U (a :: l) := by
  cases h with
  | gen => exact .cons ha (Option.some.inj hp).symm .gen
  | cons hb hq ht => exact .cons ha (Option.some.inj hp).symm (.cons hb hq ht)

theorem Chain.getElem_eq_anc {U : Nat → Blk} {l : List Nat} (h : Chain U l) :
    ∀ k (hk : k < l.length), l[k] = anc U k (l.head (Chain.ne_nil h)) := by
  induction h with
  | gen => intro k hk; simp at hk; subst hk; rfl
  | @cons a b t ha hp ht ih =>
    intro k hk
    cases k with
    | zero => rfl
    | succ k =>
      have := ih k (by simpa using hk)
      simp only [List.getElem_cons_succ, List.head_cons] at this ⊢
      rw [this, anc_succ, hp]

theorem Chain.drop {U : Nat → Blk} {l : List Nat} (h : Chain U l) :
    ∀ n, n < l.length → Chain U (l.drop n) := by
  induction h with
  | gen => intro n hn; simp at hn; subst hn; exact Chain.gen
  | @cons a b t ha hp ht ih =>
    intro n hn
    cases n with
    | zero => exact Chain.cons ha hp ht
    | succ n => simpa using ih n (by simpa using hn)

theorem Chain.zero_mem {U : Nat → Blk} {l : List Nat} (h : Chain U l) : 0 ∈ l := by
  induction h with
  | gen => exact List.mem_singleton.mpr rfl
  | cons _ _ _ ih => exact List.mem_cons_of_mem _ ih

/-! ### the store invariant -/

/-- the part of the store invariant that pruning does not touch: states are closed under parents
with consecutive heights, and a state implies a stored header -/
structure Core (U : Nat → Blk) (m : Mgr) : Prop where
  h0 : (U 0).height = 0
  closed : ∀ i, m.states i = true → i ≠ 0 →
    m.states (par U i) = true ∧ (U i).height = (U (par U i)).height + 1
  staterec : ∀ i, m.states i = true → (m.recs i).isSome = true

/-! #### without pruning: what `AddBlocks` maintains about records and states -/

structure SInv (U : Nat → Blk) (m : Mgr) : Prop where
  h0 : (U 0).height = 0
  gen : m.recs 0 = some ⟨true, true⟩ ∧ m.states 0 = true
  /-- a state is stored only for a block whose parent has a state, with consecutive heights -/
  closed : ∀ i, m.states i = true → i ≠ 0 →
    m.states (par U i) = true ∧ (U i).height = (U (par U i)).height + 1
  /-- every record has a body (nothing was pruned) and a state -/
  recstate : ∀ i r, m.recs i = some r → r.body = true ∧ m.states i = true
  staterec : ∀ i, m.states i = true → (m.recs i).isSome = true
  /-- a stored supplement means the block passed `ValidateBlock` -/
  valid : ∀ i, i ≠ 0 → m.recs i = some ⟨true, true⟩ → (U i).bodyOk = true
  /-- a stored state means the block passed `ValidateOrphan` -/
  validHdr : ∀ i, i ≠ 0 → m.states i = true → (U i).hdrOk = true ∧ (U i).future = false
  /-- a block is applied (gets its supplement) only on top of an applied parent -/
  suppclosed : ∀ i, i ≠ 0 → m.recs i = some ⟨true, true⟩ → m.recs (par U i) = some ⟨true, true⟩

theorem SInv.core {U m} (h : SInv U m) : Core U m := ⟨h.h0, h.closed, h.staterec⟩

theorem Core.ne_zero_of_height {U m} (h : Core U m) {i : Nat} (hh : 0 < (U i).height) : i ≠ 0 := by
  intro h0; subst h0; have := h.h0; omega

theorem Core.anc_state {U m} (h : Core U m) {i : Nat} (hi : m.states i = true) :
    ∀ k, k ≤ (U i).height → m.states (anc U k i) = true ∧ (U (anc U k i)).height = (U i).height - k := by
  intro k
  induction k with
  | zero => intro _; exact ⟨hi, by simp⟩
  | succ k ih =>
    intro hk
    obtain ⟨hs, hh⟩ := ih (by omega)
    have hne : anc U k i ≠ 0 := h.ne_zero_of_height (by omega)
    obtain ⟨hps, hph⟩ := h.closed _ hs hne
    rw [anc_succ']
    exact ⟨hps, by omega⟩

theorem Core.header {U m} (h : Core U m) {i : Nat} (hi : m.states i = true) : m.header i = true := by
  simpa [Mgr.header] using h.staterec i hi

theorem Core.height_pos {U m} (h : Core U m) {i : Nat} (hi : m.states i = true) (hne : i ≠ 0) :
    0 < (U i).height := by
  have := (h.closed i hi hne).2; omega

theorem Core.eq_zero_of_height {U m} (h : Core U m) {i : Nat} (hi : m.states i = true)
    (hh : (U i).height = 0) : i = 0 := by
  by_cases h0 : i = 0
  · exact h0
  · have := h.height_pos hi h0; omega

theorem Core.anc_height {U m} (h : Core U m) {i : Nat} (hi : m.states i = true) :
    anc U (U i).height i = 0 := by
  obtain ⟨hs, hh⟩ := h.anc_state hi _ (Nat.le_refl _)
  exact h.eq_zero_of_height hs (hh.trans (Nat.sub_self _))

theorem SInv.header {U m} (h : SInv U m) {i : Nat} (hi : m.states i = true) : m.header i = true :=
  h.core.header hi
theorem SInv.height_pos {U m} (h : SInv U m) {i : Nat} (hi : m.states i = true) (hne : i ≠ 0) :
    0 < (U i).height := h.core.height_pos hi hne

/-! ### `reorgPath` -/

theorem rewind_ok {U : Nat → Blk} {m : Mgr} {i r a : Nat} (hh : m.header i = true) :
    rewind U m r a none i = .ok (par U i) := by
  simp [rewind, tooLong, hh, par]

theorem rewindAbove_spec {U : Nat → Blk} {m : Mgr} (hI : Core U m) (h other : Nat) :
    ∀ (fuel a : Nat) (acc : List Nat), m.states a = true → (U a).height ≤ fuel →
      rewindAbove U m none h other fuel a acc =
        .ok (anc U ((U a).height - h) a, acc ++ (List.range ((U a).height - h)).map (fun k => anc U k a)) := by
  intro fuel
  induction fuel with
  | zero =>
    intro a acc hs hf
    have : (U a).height = 0 := by omega
    simp [rewindAbove, this]
  | succ fuel ih =>
    intro a acc hs hf
    unfold rewindAbove
    by_cases hgt : (U a).height > h
    · have hne : a ≠ 0 := hI.ne_zero_of_height (by omega)
      obtain ⟨hps, hph⟩ := hI.closed a hs hne
      simp only [hgt, if_true, rewind_ok (hI.header hs)]
      rw [ih (par U a) (acc ++ [a]) hps (by omega)]
      have e : (U a).height - h = ((U (par U a)).height - h) + 1 := by omega
      rw [e, List.range_succ_eq_map, List.map_cons, List.map_map]
      simp [anc_succ, Function.comp_def]
    · have : (U a).height - h = 0 := by omega
      simp [hgt, this]

/-- phase 3 of `reorgPath`: two stored blocks at the same height are rewound in lockstep to
their *first* common ancestor: every pair visited before the meeting differs -/
theorem rewindBoth_spec {U : Nat → Blk} {m : Mgr} (hI : Core U m) :
    ∀ (fuel a b : Nat) (rev app : List Nat), m.states a = true → m.states b = true →
      (U a).height = (U b).height → (U a).height ≤ fuel →
      ∃ n, n ≤ (U a).height ∧
        rewindBoth U m none fuel a b rev app =
          .ok (rev ++ (List.range n).map (fun k => anc U k a), app ++ (List.range n).map (fun k => anc U k b)) ∧
        anc U n a = anc U n b ∧ ∀ k, k < n → anc U k a ≠ anc U k b := by
  intro fuel
  induction fuel with
  | zero =>
    intro a b rev app ha hb hh hf
    have ha0 := hI.eq_zero_of_height ha (by omega)
    have hb0 := hI.eq_zero_of_height hb (by omega)
    exact ⟨0, by omega, by simp [rewindBoth, ha0, hb0], by simp [ha0, hb0], fun k hk => by omega⟩
  | succ fuel ih =>
    intro a b rev app ha hb hh hf
    unfold rewindBoth
    by_cases hab : a = b
    · exact ⟨0, by omega, by simp [hab], by simp [hab], fun k hk => by omega⟩
    · have hane : a ≠ 0 := by
        intro h0; subst h0
        exact hab (hI.eq_zero_of_height hb (by have := hI.h0; omega)).symm
      have hbne : b ≠ 0 := by
        intro h0; subst h0
        exact hab (hI.eq_zero_of_height ha (by have := hI.h0; omega))
      obtain ⟨hpa, hha⟩ := hI.closed a ha hane
      obtain ⟨hpb, hhb⟩ := hI.closed b hb hbne
      obtain ⟨n, hn, hrun, heq, hmin⟩ := ih (par U a) (par U b) (rev ++ [a]) (app ++ [b]) hpa hpb (by omega) (by omega)
      refine ⟨n + 1, by omega, ?_, by simpa [anc_succ] using heq, ?_⟩
      · simp only [hab, if_false, rewind_ok (hI.header ha), rewind_ok (hI.header hb)]
        rw [hrun, List.range_succ_eq_map, List.map_cons, List.map_map]
        simp [anc_succ, Function.comp_def]
      · intro k hk
        cases k with
        | zero => exact hab
        | succ k => rw [anc_succ, anc_succ]; exact hmin k (by omega)

theorem map_anc_range_add (U : Nat → Blk) (d n a : Nat) :
    (List.range (d + n)).map (fun k => anc U k a) =
      (List.range d).map (fun k => anc U k a) ++ (List.range n).map (fun k => anc U k (anc U d a)) := by
  rw [List.range_add, List.map_append, List.map_map]
  congr 1
  apply List.map_congr_left
  intro k _
  simp only [Function.comp_def]
  rw [Nat.add_comm, anc_add]

/-- **`reorgPath` is correct and minimal**: for two stored blocks it returns the first `na`
ancestors of `a` (to revert, in order) and the first `nb` ancestors of `b` reversed (to apply, in
order), which meet in a common ancestor; it never fails.  `na = da + n`, `nb = db + n` where
`da`/`db` are the steps of phases 1/2 (one of them is 0, afterwards both pointers are at the same
height) and `n` the lockstep steps of phase 3, in which every pair visited before the meeting
differs — the meeting point is the *first* common ancestor. -/
theorem reorgPath_spec_min {U : Nat → Blk} {m : Mgr} (hI : Core U m) {a b : Nat}
    (ha : m.states a = true) (hb : m.states b = true) :
    ∃ na nb, na ≤ (U a).height ∧ nb ≤ (U b).height ∧
      reorgPath U m a b none =
        .ok ((List.range na).map (fun k => anc U k a), ((List.range nb).map (fun k => anc U k b)).reverse) ∧
      anc U na a = anc U nb b ∧
      ∃ da db n, na = da + n ∧ nb = db + n ∧ (da = 0 ∨ db = 0) ∧
        (U a).height - da = (U b).height - db ∧
        ∀ k, k < n → anc U (da + k) a ≠ anc U (db + k) b := by
  unfold reorgPath
  simp only []
  rw [rewindAbove_spec hI _ _ _ a [] ha (by omega)]
  simp only [List.nil_append]
  obtain ⟨hsa1, hha1⟩ := hI.anc_state ha ((U a).height - (U b).height) (by omega)
  rw [rewindAbove_spec hI _ _ _ b [] hb (by omega)]
  simp only [List.nil_append]
  obtain ⟨hsb1, hhb1⟩ := hI.anc_state hb ((U b).height - (U (anc U ((U a).height - (U b).height) a)).height) (by omega)
  obtain ⟨n, hn, hrun, heq, hmin⟩ := rewindBoth_spec hI ((U a).height + (U b).height + 2) _ _
    ((List.range ((U a).height - (U b).height)).map (fun k => anc U k a))
    ((List.range ((U b).height - (U (anc U ((U a).height - (U b).height) a)).height)).map (fun k => anc U k b))
    hsa1 hsb1 (by omega) (by omega)
  rw [hrun]
  refine ⟨((U a).height - (U b).height) + n, ((U b).height - (U (anc U ((U a).height - (U b).height) a)).height) + n,
    by omega, by omega, ?_, ?_, (U a).height - (U b).height,
    (U b).height - (U (anc U ((U a).height - (U b).height) a)).height, n, rfl, rfl, by omega, by omega, ?_⟩
  · rw [map_anc_range_add, map_anc_range_add]
  · rw [Nat.add_comm _ n, anc_add, Nat.add_comm _ n, anc_add]
    exact heq
  · intro k hk
    rw [Nat.add_comm _ k, anc_add, Nat.add_comm _ k, anc_add]
    exact hmin k hk

theorem reorgPath_spec {U : Nat → Blk} {m : Mgr} (hI : Core U m) {a b : Nat}
    (ha : m.states a = true) (hb : m.states b = true) :
    ∃ na nb, na ≤ (U a).height ∧ nb ≤ (U b).height ∧
      reorgPath U m a b none =
        .ok ((List.range na).map (fun k => anc U k a), ((List.range nb).map (fun k => anc U k b)).reverse) ∧
      anc U na a = anc U nb b := by
  obtain ⟨na, nb, h1, h2, h3, h4, _⟩ := reorgPath_spec_min hI ha hb
  exact ⟨na, nb, h1, h2, h3, h4⟩

/-- `reorgPath` on two stored blocks, in one statement: the two legs, the phases they come from
(`reorgPath_spec_min`) and that the meeting point is the lowest common ancestor
(`reorgPath_least`) -/
theorem reorgPath_min_least {U : Nat → Blk} {m : Mgr} (hI : Core U m) {a b : Nat}
    (ha : m.states a = true) (hb : m.states b = true) :
    ∃ na nb, na ≤ (U a).height ∧ nb ≤ (U b).height ∧
      reorgPath U m a b none =
        .ok ((List.range na).map (fun k => anc U k a), ((List.range nb).map (fun k => anc U k b)).reverse) ∧
      anc U na a = anc U nb b ∧
      (∃ da db n, na = da + n ∧ nb = db + n ∧ (da = 0 ∨ db = 0) ∧
        (U a).height - da = (U b).height - db ∧ ∀ k, k < n → anc U (da + k) a ≠ anc U (db + k) b) ∧
      (U a).height - na = (U b).height - nb ∧
      ∀ i k, i ≤ (U a).height → k ≤ (U b).height → anc U i a = anc U k b → na ≤ i ∧ nb ≤ k := by
  obtain ⟨na, nb, h1, h2, h3, h4, da, db, n, e1, e2, hz, hh, hmin⟩ := reorgPath_spec_min hI ha hb
  have hadd : (U a).height + db = (U b).height + da := by omega
  refine ⟨na, nb, h1, h2, h3, h4, ⟨da, db, n, e1, e2, hz, hh, hmin⟩, by omega, ?_⟩
  clear hh h3
  intro i k hi hk heq
  -- a common ancestor `anc i a = anc k b` has one height, so `i - da = k - db =: t`, and `hmin`
  -- forbids `t < n`
  have hhi := (hI.anc_state ha i hi).2
  have hhk := (hI.anc_state hb k hk).2
  rw [heq] at hhi
  have key : ∀ t, i = da + t → k = db + t → n ≤ t := by
    intro t ei ek
    apply Nat.le_of_not_lt
    intro hlt
    apply hmin t hlt
    rw [← ei, ← ek]; exact heq
  have hle : da ≤ i := by omega
  clear hz
  have := key (i - da) (by omega) (by omega)
  omega

/-- the meeting point `reorgPath` finds is the **lowest** common ancestor: no common ancestor is
reached with fewer steps on either side (and both legs end at the same height) -/
theorem reorgPath_least {U : Nat → Blk} {m : Mgr} (hI : Core U m) {a b : Nat}
    (ha : m.states a = true) (hb : m.states b = true) :
    ∃ na nb, na ≤ (U a).height ∧ nb ≤ (U b).height ∧
      reorgPath U m a b none =
        .ok ((List.range na).map (fun k => anc U k a), ((List.range nb).map (fun k => anc U k b)).reverse) ∧
      anc U na a = anc U nb b ∧ (U a).height - na = (U b).height - nb ∧
      ∀ i k, i ≤ (U a).height → k ≤ (U b).height → anc U i a = anc U k b → na ≤ i ∧ nb ≤ k :=
  have ⟨na, nb, h1, h2, h3, h4, _, h6, h7⟩ := reorgPath_min_least hI ha hb
  ⟨na, nb, h1, h2, h3, h4, h6, h7⟩

/-! ### the manager invariants

The manager is run under three invariants: `Inv` (an unpruned node fed by `AddBlocks` or with
pre-validated batches), `PInv` (a pruned node, `Lemmas/Prune.lean`) and `SyncC.InvW` (a node fed by
the syncer from any peer, `Lemmas/SyncChain.lean`).  What they share is `WInv`. -/

/-- best chain parent-linked, states closed under parents, and every best-chain block is stored
either completely (body + supplement) or pruned (header only) — never a body without supplement,
which is what `revertTip` would dereference -/
structure WInv (U : Nat → Blk) (m : Mgr) : Prop where
  core : Core U m
  chain : Chain U m.best
  recstate : ∀ i r, m.recs i = some r → m.states i = true
  bestrec : ∀ i ∈ m.best, m.recs i = some ⟨true, true⟩ ∨ m.recs i = some ⟨false, false⟩

/-! #### the best chain and its heights -/

theorem WInv.best_state {U m} (h : WInv U m) {i : Nat} (hi : i ∈ m.best) : m.states i = true := by
  rcases h.bestrec i hi with e | e <;> exact h.recstate i _ e

theorem WInv.head?_best {U m} (h : WInv U m) : m.best.head? = some m.tip := by
  cases hb : m.best with
  | nil => exact absurd hb h.chain.ne_nil
  | cons a t => simp [Mgr.tip, hb]

theorem WInv.tip_mem {U m} (h : WInv U m) : m.tip ∈ m.best := List.mem_of_mem_head? h.head?_best

theorem WInv.tip_state {U m} (h : WInv U m) : m.states m.tip = true := h.best_state h.tip_mem

theorem WInv.length {U m} (h : WInv U m) : m.best.length = (U m.tip).height + 1 := by
  have : ∀ {l : List Nat}, Chain U l → (∀ i ∈ l, m.states i = true) → l.length = (U (l.headD 0)).height + 1 := by
    intro l hl hst
    induction hl with
    | gen => simp [h.core.h0]
    | @cons a b t ha hp ht ih =>
      have h1 := ih (fun i hi => hst i (by simp [hi]))
      have h2 := (h.core.closed a (hst a (by simp)) ha).2
      simp only [List.headD_cons, List.length_cons] at h1 ⊢
      rw [hp] at h2
      omega
  exact this h.chain (fun _ hi => h.best_state hi)

theorem WInv.best_getElem {U m} (h : WInv U m) (k : Nat) (hk : k < m.best.length) :
    m.best[k] = anc U k m.tip := by
  rw [h.chain.getElem_eq_anc k hk]
  congr 1
  unfold Mgr.tip
  rw [List.headD_eq_head?_getD, List.head?_eq_some_head h.chain.ne_nil]
  rfl

theorem WInv.best_height {U m} (h : WInv U m) (k : Nat) (hk : k < m.best.length) :
    (U m.best[k]).height + k + 1 = m.best.length := by
  have hlen := h.length
  have hk' : k ≤ (U m.tip).height := by rw [hlen] at hk; exact Nat.le_of_lt_succ hk
  rw [h.best_getElem k hk, (h.core.anc_state h.tip_state k hk').2, hlen, Nat.sub_add_cancel hk']

theorem WInv.anc_mem {U m} (h : WInv U m) {k : Nat} (hk : k ≤ (U m.tip).height) :
    anc U k m.tip ∈ m.best := by
  have hlen := h.length
  have hk' : k < m.best.length := by omega
  rw [← h.best_getElem k hk']
  exact List.getElem_mem hk'

theorem WInv.mem_height_le {U m} (h : WInv U m) {i : Nat} (hi : i ∈ m.best) :
    (U i).height ≤ (U m.tip).height := by
  obtain ⟨k, hk, e⟩ := List.mem_iff_getElem.mp hi
  have := h.best_height k hk
  have hlen := h.length
  rw [e] at this
  omega

theorem WInv.above_tip {U m} (h : WInv U m) {i : Nat} (hp : par U i = m.tip) (hne : i ≠ 0)
    (hs : m.states i = true) : i ∉ m.best := by
  intro hi
  have hh := (h.core.closed i hs hne).2
  have := h.mem_height_le hi
  rw [hp] at hh
  omega

theorem WInv.tip_drop {U m} (h : WInv U m) {c : Nat} (hc : c ≤ (U m.tip).height) :
    ({ m with best := m.best.drop c } : Mgr).tip = anc U c m.tip := by
  have hlen := h.length
  have hk := h.best_getElem c (by omega)
  show (m.best.drop c).headD 0 = anc U c m.tip
  rw [← hk, List.headD_eq_head?_getD, List.head?_drop, List.getElem?_eq_getElem (by omega)]
  rfl

theorem WInv.nodup {U m} (h : WInv U m) : m.best.Nodup := by
  rw [List.nodup_iff_pairwise_ne, List.pairwise_iff_getElem]
  intro i j hi hj hij e
  have h1 := h.best_height i hi
  have h2 := h.best_height j hj
  rw [e] at h1
  omega

/-! #### the height index `bestAt` -/

theorem bestAt_recs (m : Mgr) (r : Nat → Option Rec) (k : Nat) :
    ({ m with recs := r } : Mgr).bestAt k = m.bestAt k := rfl

theorem bestAt_mem {m : Mgr} {k i : Nat} (h : m.bestAt k = some i) : i ∈ m.best := by
  unfold Mgr.bestAt at h
  split at h
  · exact List.mem_of_getElem? h
  · simp at h

theorem bestAt_inj {m : Mgr} (hn : m.best.Nodup) {k k' i : Nat}
    (h : m.bestAt k = some i) (h' : m.bestAt k' = some i) : k = k' := by
  unfold Mgr.bestAt at h h'
  split at h <;> split at h' <;> try (simp at h h')
  next hk hk' =>
    have := (List.getElem?_inj (i := m.best.length - 1 - k) (j := m.best.length - 1 - k') (by omega) hn).mp (h.trans h'.symm)
    omega

theorem bestAt_of_lt {m : Mgr} {k : Nat} (hk : k < m.best.length) :
    m.bestAt k = some m.best[m.best.length - 1 - k] := by
  unfold Mgr.bestAt
  rw [if_pos hk]
  exact List.getElem?_eq_getElem (by omega)

theorem bestAt_lt {m : Mgr} {k i : Nat} (h : m.bestAt k = some i) : k < m.best.length := by
  unfold Mgr.bestAt at h
  split at h
  · assumption
  · cases h

theorem bestAt_le {m : Mgr} {k i : Nat} (h : m.bestAt k = some i) : k ≤ m.tipHeight :=
  Nat.le_sub_one_of_lt (bestAt_lt h)

theorem WInv.bestAt_height {U m} (h : WInv U m) {k i : Nat} (hk : m.bestAt k = some i) :
    (U i).height = k ∧ i ∈ m.best ∧ k < m.best.length := by
  have hlt := bestAt_lt hk
  have hj : m.best.length - 1 - k < m.best.length := by omega
  have hh := h.best_height _ hj
  rw [bestAt_of_lt hlt] at hk
  rw [Option.some.inj hk] at hh
  exact ⟨by omega, Option.some.inj hk ▸ List.getElem_mem hj, hlt⟩

theorem WInv.bestAt_of_mem {U m} (h : WInv U m) {i : Nat} (hi : i ∈ m.best) :
    m.bestAt (U i).height = some i := by
  obtain ⟨k, hk, e⟩ := List.mem_iff_getElem.mp hi
  have hh := h.best_height k hk
  rw [e] at hh
  rw [bestAt_of_lt (by omega)]
  have : m.best.length - 1 - (U i).height = k := by omega
  simp only [this, e]

theorem WInv.tipHeight_eq {U m} (h : WInv U m) : m.tipHeight = (U m.tip).height := by
  have := h.length
  unfold Mgr.tipHeight
  omega

theorem WInv.bestAt_tip {U m} (h : WInv U m) : m.bestAt m.tipHeight = some m.tip := by
  rw [h.tipHeight_eq]
  exact h.bestAt_of_mem h.tip_mem

/-- along the best chain the height index and the parent links agree -/
theorem WInv.bestAt_anc {U m} (h : WInv U m) {ha a k : Nat} (hb : m.bestAt ha = some a) (hk : k ≤ ha) :
    m.bestAt (ha - k) = some (anc U k a) := by
  have hlt := bestAt_lt hb
  rw [bestAt_of_lt hlt, h.best_getElem _ (by omega)] at hb
  rw [bestAt_of_lt (by omega), h.best_getElem _ (by omega), ← Option.some.inj hb, ← anc_add]
  congr 2
  omega

theorem WInv.bestAt_succ_parent {U m} (h : WInv U m) {k i n : Nat}
    (hi : m.bestAt k = some i) (hn : m.bestAt (k + 1) = some n) : par U n = i ∧ n ≠ 0 := by
  have ha := h.bestAt_anc hn (Nat.le_add_left 1 k)
  rw [Nat.add_sub_cancel, hi] at ha
  exact ⟨(Option.some.inj ha).symm, h.core.ne_zero_of_height (by have := (h.bestAt_height hn).1; omega)⟩

theorem WInv.bestAt_zero {U m} (h : WInv U m) : m.bestAt 0 = some 0 := by
  have := h.bestAt_of_mem h.chain.zero_mem
  rwa [h.core.h0] at this

theorem WInv.drop {U m} (h : WInv U m) {c : Nat} (hc : c ≤ (U m.tip).height) :
    WInv U { m with best := m.best.drop c } :=
  { h with
    core := { h.core with }
    chain := h.chain.drop c (by have := h.length; omega)
    bestrec := fun i hi => h.bestrec i (List.mem_of_mem_drop hi) }

/-! #### the invariant of an unpruned node -/

structure Inv (U : Nat → Blk) (m : Mgr) : Prop where
  s : SInv U m
  chain : Chain U m.best
  /-- every block on the best chain is stored with body and supplement (it was applied) -/
  bestsupp : ∀ i ∈ m.best, m.recs i = some ⟨true, true⟩

/-- what a manager step never loses -/
structure Mono (m m' : Mgr) : Prop where
  states : ∀ i, m.states i = true → m'.states i = true
  supp : ∀ i, m.recs i = some ⟨true, true⟩ → m'.recs i = some ⟨true, true⟩
  notified : m'.notified = m.notified

theorem Mono.refl (m : Mgr) : Mono m m := ⟨fun _ h => h, fun _ h => h, rfl⟩
theorem Mono.trans {a b c : Mgr} (h₁ : Mono a b) (h₂ : Mono b c) : Mono a c :=
  ⟨fun i h => h₂.states i (h₁.states i h), fun i h => h₂.supp i (h₁.supp i h), by rw [h₂.notified, h₁.notified]⟩

theorem Inv.toWInv {U m} (h : Inv U m) : WInv U m :=
  ⟨h.s.core, h.chain, fun i r hr => (h.s.recstate i r hr).2, fun i hi => .inl (h.bestsupp i hi)⟩

theorem Inv.head?_best {U m} (h : Inv U m) : m.best.head? = some m.tip := h.toWInv.head?_best

theorem Inv.tip_mem {U m} (h : Inv U m) : m.tip ∈ m.best := h.toWInv.tip_mem

theorem Inv.best_eq_of_tip {U m m'} (h : Inv U m) (h' : Inv U m') (ht : m.tip = m'.tip) : m.best = m'.best :=
  Chain.unique h.chain h'.chain (by rw [h.head?_best, h'.head?_best, ht])

theorem Inv.best_state {U m} (h : Inv U m) {i : Nat} (hi : i ∈ m.best) : m.states i = true :=
  h.toWInv.best_state hi

theorem Inv.tip_state {U m} (h : Inv U m) : m.states m.tip = true := h.toWInv.tip_state

theorem Inv.length {U m} (h : Inv U m) : m.best.length = (U m.tip).height + 1 := h.toWInv.length

theorem Inv.best_getElem {U m} (h : Inv U m) (k : Nat) (hk : k < m.best.length) :
    m.best[k] = anc U k m.tip := h.toWInv.best_getElem k hk

/-- the invariant speaks of `best` only through `chain` and `bestsupp`, and not of `notified` -/
theorem Inv.with_best {U m} (h : Inv U m) {best : List Nat} (n : Nat) (hc : Chain U best)
    (hb : ∀ i ∈ best, m.recs i = some ⟨true, true⟩) : Inv U { m with best := best, notified := n } :=
  { s := { h.s with }, chain := hc, bestsupp := hb }

/-! ### what each manager function does -/

theorem upd_true_of_true {f : Nat → Bool} {i : Nat} (b : Nat) (h : f i = true) : upd f b true i = true := by
  by_cases e : i = b
  · rw [e, upd_same]
  · rwa [upd_other _ _ _ _ e]

theorem Core.store {U m} (h : Core U m) {b : Nat} (r : Rec) (hpar : m.states (par U b) = true)
    (hh : b ≠ 0 → (U b).height = (U (par U b)).height + 1) :
    Core U { m with states := upd m.states b true, recs := upd m.recs b (some r) } := by
  refine ⟨h.h0, fun j hj hj0 => ?_, fun j hj => ?_⟩
  all_goals dsimp only at hj ⊢
  · by_cases e : j = b
    · subst e
      exact ⟨upd_true_of_true _ hpar, hh hj0⟩
    · rw [upd_other _ _ _ _ e] at hj
      exact (h.closed j hj hj0).imp_left (upd_true_of_true b)
  · by_cases e : j = b
    · rw [e, upd_same]; rfl
    · rw [upd_other _ _ _ _ e] at hj ⊢
      exact h.staterec j hj

/-- what writing the record `⟨true, s⟩` and a state for `b` does to the clauses `SInv` and
`SyncC.SInvW` share: every record has a body and a state, and no supplement is taken away -/
theorem store_base {U m} {b : Nat} {s : Bool} (hc : Core U m)
    (hrs : ∀ i r, m.recs i = some r → r.body = true ∧ m.states i = true)
    (hpar : m.states (par U b) = true) (hh : b ≠ 0 → (U b).height = (U (par U b)).height + 1)
    (hns : s = false → m.recs b ≠ some ⟨true, true⟩) :
    Core U { m with states := upd m.states b true, recs := upd m.recs b (some ⟨true, s⟩) } ∧
    (∀ i r, upd m.recs b (some ⟨true, s⟩) i = some r → r.body = true ∧ upd m.states b true i = true) ∧
    (∀ i, m.recs i = some ⟨true, true⟩ → upd m.recs b (some ⟨true, s⟩) i = some ⟨true, true⟩) := by
  refine ⟨hc.store _ hpar hh, fun j r hj => ?_, fun j hj => ?_⟩
  · by_cases e : j = b
    · subst e
      rw [upd_same] at hj
      exact ⟨Option.some.inj hj ▸ rfl, upd_same ..⟩
    · rw [upd_other _ _ _ _ e] at hj
      exact (hrs j r hj).imp_right (upd_true_of_true b)
  · by_cases e : j = b
    · cases s with
      | true => rw [e, upd_same]
      | false => exact absurd (e ▸ hj) (hns rfl)
    · rwa [upd_other _ _ _ _ e]

theorem Mono.of_best (m : Mgr) (l : List Nat) : Mono m { m with best := l } := ⟨fun _ h => h, fun _ h => h, rfl⟩

theorem mono_store (m : Mgr) (i : Nat) (l : List Nat) :
    Mono m { m with states := upd m.states i true, recs := upd m.recs i (some ⟨true, true⟩), best := l } := by
  refine ⟨fun j hj => upd_true_of_true i hj, fun j hj => ?_, rfl⟩
  by_cases e : j = i <;> simp [upd, e, hj]

/-! #### `revertTip`, `revertN` -/

theorem revertTip_stored {U m} {t : Nat} {rest : List Nat} (hb : m.best = t :: rest)
    (hr : m.recs t = some ⟨true, true⟩) (hp : m.states (par U t) = true) :
    revertTip U m = .ok { m with best := rest } := by
  have hp' : m.states (U t).parent = true := hp
  simp [revertTip, hb, Mgr.block, hr, hp']

theorem revertTip_pruned {U m} {t : Nat} {rest : List Nat} (hb : m.best = t :: rest)
    (hr : m.recs t = some ⟨false, false⟩) : revertTip U m = .error .missingBlock := by
  simp [revertTip, hb, Mgr.block, hr]

/-- reverting `n` blocks takes the completely stored blocks off the best chain, one after the other;
it stops before the first pruned one, which is reported as a missing block -/
theorem WInv.revertN_eq {U} : ∀ {n : Nat} {m : Mgr}, WInv U m → n ≤ (U m.tip).height →
    ∃ c, c ≤ n ∧ (∀ k, k < c → m.recs (anc U k m.tip) = some ⟨true, true⟩) ∧
      ((c = n ∧ revertN U n m = ({ m with best := m.best.drop c }, none)) ∨
       (c < n ∧ m.recs (anc U c m.tip) = some ⟨false, false⟩ ∧
         revertN U n m = ({ m with best := m.best.drop c }, some .missingBlock))) := by
  intro n
  induction n with
  | zero => exact fun _ _ => ⟨0, Nat.le_refl 0, nofun, .inl ⟨rfl, rfl⟩⟩
  | succ n ih =>
    intro m h hn
    have hlen := h.length
    match hb : m.best with
    | [] => simp [hb] at hlen
    | [_] => simp [hb] at hlen; omega
    | t :: b :: rest =>
      have ht : m.tip = t := by simp [Mgr.tip, hb]
      have htm : t ∈ m.best := by simp [hb]
      obtain ⟨-, ht0, hp⟩ := (hb ▸ h.chain).tail
      rw [← hb, ht]
      rw [ht] at hn
      rcases h.bestrec t htm with hr | hr
      · have hst := h.core.closed t (h.best_state htm) ht0
        have h1 := h.drop (c := 1) (by rw [ht]; omega)
        have e1 : ({ m with best := m.best.drop 1 } : Mgr).tip = par U t := by simp [Mgr.tip, hb, hp]
        obtain ⟨c, hc, hfull, hres⟩ := ih h1 (by rw [e1]; omega)
        rw [e1] at hfull hres
        have hrun : revertN U (n + 1) m = revertN U n { m with best := m.best.drop 1 } := by
          rw [revertN, revertTip_stored hb hr hst.1, hb]
          rfl
        rw [hrun]
        refine ⟨c + 1, Nat.succ_le_succ hc, fun k hk => ?_, ?_⟩
        · cases k with
          | zero => exact hr
          | succ k => exact hfull k (Nat.lt_of_succ_lt_succ hk)
        · simp only [List.drop_drop, Nat.add_comm 1 c] at hres
          rcases hres with ⟨e, hres⟩ | ⟨hlt, hpr, hres⟩
          · exact .inl ⟨congrArg (· + 1) e, hres⟩
          · exact .inr ⟨Nat.succ_lt_succ hlt, hpr, hres⟩
      · refine ⟨0, Nat.zero_le _, nofun, .inr ⟨Nat.succ_pos n, hr, ?_⟩⟩
        rw [revertN, revertTip_pruned hb hr]
        rfl

/-! #### `applyTip`, `applyAll` -/

theorem applyTip_stored {U m} {i : Nat} (hp : par U i = m.tip) (hr : m.recs i = some ⟨true, true⟩) :
    applyTip U m i = .ok { m with best := i :: m.best } := by
  have hp' : (U i).parent = m.tip := hp
  simp [applyTip, Mgr.block, hr, hp']

theorem applyTip_valid {U m} {i : Nat} (hp : par U i = m.tip) (hr : m.recs i = some ⟨true, false⟩)
    (hok : (U i).bodyOk = true) :
    applyTip U m i =
      .ok { m with states := upd m.states i true, recs := upd m.recs i (some ⟨true, true⟩), best := i :: m.best } := by
  have hp' : (U i).parent = m.tip := hp
  simp [applyTip, Mgr.block, hr, hp', hok]

theorem applyTip_invalid {U m} {i : Nat} (hp : par U i = m.tip) (hr : m.recs i = some ⟨true, false⟩)
    (hok : (U i).bodyOk = false) : applyTip U m i = .error .invalidBlock := by
  have hp' : (U i).parent = m.tip := hp
  simp [applyTip, Mgr.block, hr, hp', hok]

theorem applyAll_ok {U m m'} {x : Nat} {xs : List Nat} (h : applyTip U m x = .ok m') :
    applyAll U (x :: xs) m = applyAll U xs m' := by
  simp only [applyAll, h]

theorem applyAll_error {U m} {x : Nat} {xs : List Nat} {e : RErr} (h : applyTip U m x = .error e) :
    applyAll U (x :: xs) m = (m, some e) := by
  simp only [applyAll, h]

/-- `l` can be applied one block after the other on top of `tip` -/
def Attach (U : Nat → Blk) (m : Mgr) : Nat → List Nat → Prop
  | _, [] => True
  | tip, x :: xs => par U x = tip ∧ x ≠ 0 ∧ m.states x = true ∧ Attach U m x xs

theorem Attach.mono {U m m'} (hm : Mono m m') : ∀ {tip l}, Attach U m tip l → Attach U m' tip l
  | _, [], _ => trivial
  | _, _ :: _, ⟨h1, h2, h3, h4⟩ => ⟨h1, h2, hm.states _ h3, Attach.mono hm h4⟩

/-- the apply list `reorgPath` returns attaches to the meeting point -/
theorem attach_anc {U m} (hI : Core U m) {b : Nat} (hb : m.states b = true) :
    ∀ nb, nb ≤ (U b).height →
      Attach U m (anc U nb b) ((List.range nb).map (fun k => anc U k b)).reverse := by
  intro nb
  induction nb with
  | zero => intro _; simp [Attach]
  | succ nb ih =>
    intro hn
    rw [List.range_succ, List.map_append, List.reverse_append]
    simp only [List.map_cons, List.map_nil, List.reverse_cons, List.reverse_nil, List.nil_append,
      List.singleton_append]
    obtain ⟨hs, hh⟩ := hI.anc_state hb nb (by omega)
    exact ⟨(anc_succ' U nb b).symm, hI.ne_zero_of_height (by omega), hs, ih (by omega)⟩

theorem WInv.attach_drop {U m} (h : WInv U m) {t na nb : Nat} (ht : m.states t = true)
    (hna : na ≤ (U m.tip).height) (hnb : nb ≤ (U t).height) (hmeet : anc U na m.tip = anc U nb t) :
    Attach U ({ m with best := m.best.drop na } : Mgr) ({ m with best := m.best.drop na } : Mgr).tip
      ((List.range nb).map (fun k => anc U k t)).reverse := by
  rw [h.tip_drop hna, hmeet]
  exact attach_anc (m := { m with best := m.best.drop na }) { h.core with } ht nb hnb

theorem getLastD_reverse_map_anc (U : Nat → Blk) (b nb d : Nat) :
    (((List.range nb).map (fun k => anc U k b)).reverse).getLastD d = if nb = 0 then d else b := by
  cases nb with
  | zero => simp
  | succ nb =>
    rw [List.range_succ_eq_map]
    simp [List.getLastD_eq_getLast?]

/-! #### `reorgTo`, `maybeReorg` -/

/-- **what `reorgTo` does** towards a stored block `t`: with `na`, `nb` the legs of the minimal path
`reorgPath` finds, it takes the completely stored ones among the first `na` blocks off the best
chain and, if those were all, applies the `nb` blocks below `t`; otherwise it stops in front of the
first pruned one with a missing block -/
theorem WInv.reorgTo_eq {U m} (h : WInv U m) {t : Nat} (ht : m.states t = true) :
    ∃ na nb c, na ≤ (U m.tip).height ∧ nb ≤ (U t).height ∧
      reorgPath U m m.tip t none =
        .ok ((List.range na).map (fun k => anc U k m.tip), ((List.range nb).map (fun k => anc U k t)).reverse) ∧
      anc U na m.tip = anc U nb t ∧
      (∀ i k, i ≤ (U m.tip).height → k ≤ (U t).height → anc U i m.tip = anc U k t → na ≤ i ∧ nb ≤ k) ∧
      c ≤ na ∧ (∀ k, k < c → m.recs (anc U k m.tip) = some ⟨true, true⟩) ∧
      ((c = na ∧ reorgTo U m t =
          applyAll U ((List.range nb).map (fun k => anc U k t)).reverse { m with best := m.best.drop c }) ∨
       (c < na ∧ m.recs (anc U c m.tip) = some ⟨false, false⟩ ∧
          reorgTo U m t = ({ m with best := m.best.drop c }, some .missingBlock))) := by
  obtain ⟨na, nb, hna, hnb, hpath, hmeet, -, hleast⟩ := reorgPath_least h.core h.tip_state ht
  obtain ⟨c, hcn, hfull, hrev⟩ := h.revertN_eq hna
  refine ⟨na, nb, c, hna, hnb, hpath, hmeet, hleast, hcn, hfull, ?_⟩
  rcases hrev with ⟨e, hrev⟩ | ⟨e, hpr, hrev⟩
  · exact .inl ⟨e, by simp only [reorgTo, hpath, List.length_map, List.length_range, hrev]⟩
  · exact .inr ⟨e, hpr, by simp only [reorgTo, hpath, List.length_map, List.length_range, hrev]⟩

theorem heavier_iff {U} {a b : Nat} : heavier U a b = true ↔ (U a).work > (U b).work + (U b).diff / 5 :=
  decide_eq_true_iff

theorem maybeReorg_light {U m cs} (hh : heavier U cs m.tip = false) : maybeReorg U m cs = (m, none) := by
  simp [maybeReorg, hh]

theorem maybeReorg_ok {U m cs} (hh : heavier U cs m.tip = true) (hr : (reorgTo U m cs).2 = none) :
    maybeReorg U m cs =
      ({ (reorgTo U m cs).1 with notified := (reorgTo U m cs).1.notified + 1 }, none) := by
  unfold maybeReorg
  rw [if_pos hh]
  generalize reorgTo U m cs = r at hr ⊢
  obtain ⟨m1, e1⟩ := r
  cases hr
  rfl

/-- how `AddBlocks` / `AddValidatedV2Blocks` answered (`e`) and left the manager (`m'`), seen from
the manager `m` the call started on: no error, and the chain as it was or the tip moved to a
sufficiently heavier block with one notification; or one of the errors `errs`, and best chain and
notification count as they were -/
def AddOutcome (U : Nat → Blk) (m m' : Mgr) (e : Option Err) (errs : Prop) : Prop :=
  (e = none ∧ ((m'.best = m.best ∧ m'.notified = m.notified) ∨
      (heavier U m'.tip m.tip = true ∧ m'.notified = m.notified + 1))) ∨
  (errs ∧ m'.best = m.best ∧ m'.notified = m.notified)

theorem AddOutcome.imp_errs {U m m' e P Q} (h : AddOutcome U m m' e P) (hpq : P → Q) : AddOutcome U m m' e Q :=
  Or.imp_right (And.imp_left hpq) h

theorem AddOutcome.result {U m m' e errs} (h : AddOutcome U m m' e errs) : e = none ∨ errs :=
  Or.imp And.left And.left h

theorem AddOutcome.best_or_heavier {U m m' e errs} (h : AddOutcome U m m' e errs) :
    m'.best = m.best ∨ heavier U m'.tip m.tip = true := by
  rcases h with ⟨_, ⟨hb, _⟩ | ⟨hh, _⟩⟩ | ⟨_, hb, _⟩
  · exact .inl hb
  · exact .inr hh
  · exact .inl hb

/-- an error leaves the chain exactly as it was -/
theorem AddOutcome.error {U m m' e errs} (h : AddOutcome U m m' e errs) (he : e ≠ none) :
    m'.best = m.best ∧ m'.notified = m.notified := by
  rcases h with ⟨h, _⟩ | ⟨_, h⟩
  · exact absurd h he
  · exact h

/-- the tip moves only to a sufficiently heavier block, with exactly one notification -/
theorem AddOutcome.tip {U m m' e errs} (h : AddOutcome U m m' e errs) :
    (m'.tip ≠ m.tip → heavier U m'.tip m.tip = true ∧ m'.notified = m.notified + 1) ∧
    (m'.tip = m.tip → m'.notified = m.notified) := by
  have same : m'.best = m.best → m'.tip = m.tip := congrArg (List.headD · 0)
  rcases h with ⟨_, ⟨hb, hn⟩ | ⟨hh, hn⟩⟩ | ⟨_, hb, hn⟩
  · exact ⟨fun hne => absurd (same hb) hne, fun _ => hn⟩
  · refine ⟨fun _ => ⟨hh, hn⟩, fun he => ?_⟩
    rw [he] at hh
    have := heavier_iff.mp hh
    omega
  · exact ⟨fun hne => absurd (same hb) hne, fun _ => hn⟩

/-! #### the loop of `AddBlocks` -/

/-- `AddBlocks` passes over `b`: it is stored with its supplement, or pruned -/
def Mgr.known (m : Mgr) (b : Nat) : Prop :=
  m.block b = some true ∨ (m.header b = true ∧ (m.block b).isNone = true)

/-- the checks `AddBlocks` makes before it stores a block (`manager.go:262-277`) -/
def addCheck (U : Nat → Blk) (m : Mgr) (b cs : Nat) : Option Err :=
  if (U b).parent ≠ cs ∧ !m.states (U b).parent then some .missingParent
  else if (U b).future then some .future
  else if !(U b).hdrOk then some .invalidHeader
  else none

theorem addLoop_known {U m} {b cs : Nat} {bs : List Nat} (hk : m.known b) :
    addBlocks.go U (b :: bs) m cs = addBlocks.go U bs m b := by
  rw [addBlocks.go]
  rcases hk with hk | hk
  · rw [if_pos hk]
  · rw [if_pos hk, ite_self]

theorem addLoop_new {U m} {b cs : Nat} {bs : List Nat} (hk : ¬ m.known b) :
    addBlocks.go U (b :: bs) m cs =
      match addCheck U m b cs with
      | some e => (m, some e, cs)
      | none => addBlocks.go U bs
          { m with states := upd m.states b true, recs := upd m.recs b (some ⟨true, false⟩) } b := by
  rw [addBlocks.go, if_neg (fun x => hk (Or.inl x)), if_neg (fun x => hk (Or.inr x))]
  unfold addCheck
  by_cases h1 : (U b).parent ≠ cs ∧ (!m.states (U b).parent) = true
  · rw [if_pos h1, if_pos h1]
  · rw [if_neg h1, if_neg h1]
    by_cases h2 : (U b).future = true
    · rw [if_pos h2, if_pos h2]
    · rw [if_neg h2, if_neg h2]
      by_cases h3 : (!(U b).hdrOk) = true
      · rw [if_pos h3, if_pos h3]
      · rw [if_neg h3, if_neg h3]

theorem addCheck_range (U : Nat → Blk) (m : Mgr) (b cs : Nat) :
    addCheck U m b cs = none ∨ addCheck U m b cs = some .missingParent ∨
    addCheck U m b cs = some .future ∨ addCheck U m b cs = some .invalidHeader := by
  unfold addCheck
  repeat' split
  all_goals simp

theorem addCheck_none {U m} {b cs : Nat} (he : addCheck U m b cs = none) (hcs : m.states cs = true) :
    m.states (par U b) = true ∧ (U b).hdrOk = true ∧ (U b).future = false := by
  unfold addCheck at he
  split at he
  · cases he
  next h1 =>
    split at he
    · cases he
    next h2 =>
      split at he
      · cases he
      next h3 =>
        refine ⟨?_, by simpa using h3, by simpa using h2⟩
        by_cases e : (U b).parent = cs
        · simpa [par, e] using hcs
        · simpa [par, e] using h1

theorem Mgr.known_of_stored {m : Mgr} {b : Nat} (h : m.recs b = some ⟨true, true⟩) : m.known b :=
  Or.inl (by simp [Mgr.block, h])

theorem WInv.known_state {U m} (h : WInv U m) {b : Nat} (hk : m.known b) : m.states b = true := by
  cases hr : m.recs b with
  | none => rcases hk with hk | hk <;> simp [Mgr.block, Mgr.header, hr] at hk
  | some r => exact h.recstate b r hr

theorem WInv.known_of_mem {U m} (h : WInv U m) {b : Nat} (hb : b ∈ m.best) : m.known b := by
  rcases h.bestrec b hb with e | e
  · exact Mgr.known_of_stored e
  · exact Or.inr (by simp [Mgr.header, Mgr.block, e])

theorem addLoop_cs (U : Nat → Blk) (batch : List Nat) (m : Mgr) (cs : Nat) :
    (addBlocks.go U batch m cs).2.1 = none → (addBlocks.go U batch m cs).2.2 = batch.getLastD cs := by
  fun_induction addBlocks.go U batch m cs with
  | case1 => exact fun _ => rfl
  -- cases 2, 3, 7 are the branches that continue the loop (`b` stored with supplement, pruned,
  -- newly stored), cases 4–6 the three `addCheck` errors
  | case2 b bs _ _ _ ih | case3 b bs _ _ _ _ ih | case7 b bs _ _ _ _ _ _ _ ih =>
    rw [List.getLastD_cons]
    exact ih
  | case4 | case5 | case6 => exact fun h => nomatch h

/-! ### pruning -/

/-- the pruning loop touches nothing but records of best-chain blocks below `h`, which it
replaces by header-only records -/
theorem prune_go_spec : ∀ (h : Nat) (m : Mgr),
    (prune.go h m).best = m.best ∧ (prune.go h m).states = m.states ∧
    (prune.go h m).notified = m.notified ∧
    ∀ i, (prune.go h m).recs i = m.recs i ∨
      ((prune.go h m).recs i = some ⟨false, false⟩ ∧ (m.recs i).isSome = true ∧
        ∃ k, k < h ∧ m.bestAt k = some i) := by
  intro h
  induction h with
  | zero => intro m; simp [prune.go]
  | succ h ih =>
    intro m
    unfold prune.go
    cases hb : m.bestAt h with
    | none => simp
    | some i =>
      simp only
      cases hblk : m.block i with
      | none => simp
      | some sp =>
        simp only
        obtain ⟨i1, i2, i3, i4⟩ := ih { m with recs := upd m.recs i (some ⟨false, false⟩) }
        refine ⟨i1, i2, i3, ?_⟩
        have hrec : (m.recs i).isSome = true := by
          simp only [Mgr.block] at hblk
          cases hr : m.recs i with
          | none => simp [hr] at hblk
          | some r => rfl
        intro j
        rcases i4 j with e | ⟨e1, e2, k, hk, e3⟩
        · by_cases hj : j = i
          · subst hj
            right
            exact ⟨by rw [e]; simp [upd], hrec, h, by omega, hb⟩
          · left; rw [e]; simp [upd, hj]
        · right
          refine ⟨e1, ?_, k, by omega, e3⟩
          by_cases hj : j = i
          · subst hj; exact hrec
          · simpa [upd, hj] using e2

end Verif.Chain
