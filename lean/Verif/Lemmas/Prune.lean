/-
The chain manager with pruned block bodies (C19).  `PInv U m p` says where the boundary lies:
best-chain blocks below height `p` (the frontier) are header-only, those at or above it complete.
`AddBlocks` keeps the frontier, `PruneBlocks` lifts it, and a failed reorg is always rolled back.
The invariant of an unpruned node is `Inv` in `Lemmas/Chain.lean`, as is `WInv`, the shape every
pruning node keeps.
-/
import Verif.Lemmas.ChainKept

namespace Verif.Chain

/-! ### the invariant of a pruned node with frontier `p` -/

structure PInv (U : Nat → Blk) (m : Mgr) (p : Nat) : Prop where
  core : Core U m
  chain : Chain U m.best
  /-- the frontier never exceeds the chain: the tip's height is at least `p - 1` -/
  frontier : p ≤ m.best.length
  recstate : ∀ i r, m.recs i = some r → m.states i = true
  /-- best-chain blocks below the frontier are header-only -/
  pruned : ∀ i ∈ m.best, (U i).height < p → m.recs i = some ⟨false, false⟩
  /-- best-chain blocks at or above the frontier are stored with body and supplement -/
  stored : ∀ i ∈ m.best, p ≤ (U i).height → m.recs i = some ⟨true, true⟩
  /-- only best-chain blocks are ever pruned -/
  sidebody : ∀ i r, m.recs i = some r → i ∉ m.best → r.body = true
  valid : ∀ i, i ≠ 0 → m.recs i = some ⟨true, true⟩ → (U i).bodyOk = true
  validHdr : ∀ i, i ≠ 0 → m.states i = true → (U i).hdrOk = true ∧ (U i).future = false

theorem PInv.toWInv {U m p} (h : PInv U m p) : WInv U m :=
  ⟨h.core, h.chain, h.recstate, fun i hi => by
    by_cases hlt : (U i).height < p
    · exact Or.inr (h.pruned i hi hlt)
    · exact Or.inl (h.stored i hi (by omega))⟩

theorem Inv.toPInv {U m} (h : Inv U m) : PInv U m 0 :=
  ⟨h.s.core, h.chain, Nat.zero_le _, fun i r hr => (h.s.recstate i r hr).2,
    fun _ _ hlt => absurd hlt (Nat.not_lt_zero _), fun i hi _ => h.bestsupp i hi,
    fun i r hr _ => (h.s.recstate i r hr).1, h.s.valid, h.s.validHdr⟩

theorem PInv.congr {U m m' p} (h : PInv U m p) (hr : m'.recs = m.recs) (hs : m'.states = m.states)
    (hb : m'.best = m.best) : PInv U m' p := by
  obtain ⟨r, s, b, n⟩ := m
  obtain ⟨r', s', b', n'⟩ := m'
  cases hr
  cases hs
  cases hb
  exact { h with core := { h.core with } }

/-- the invariant in terms of `BestIndex(height)`: the block at best height `k` is header-only
iff `k` is below the frontier, fully stored otherwise -/
theorem PInv.bestAt_rec {U m p} (h : PInv U m p) {k i : Nat} (hk : m.bestAt k = some i) :
    (k < p → m.recs i = some ⟨false, false⟩) ∧ (p ≤ k → m.recs i = some ⟨true, true⟩) ∧
    (m.recs i = some ⟨false, false⟩ ↔ k < p) := by
  obtain ⟨hh, hm, _⟩ := h.toWInv.bestAt_height hk
  refine ⟨fun hlt => h.pruned i hm (by omega), fun hle => h.stored i hm (by omega), ?_, fun hlt => h.pruned i hm (by omega)⟩
  intro e
  apply Nat.lt_of_not_le
  intro hle
  have := h.stored i hm (by omega)
  rw [e] at this
  cases this

theorem PInv.bestAt_block {U m p} (h : PInv U m p) {k i : Nat} (hk : m.bestAt k = some i) :
    (m.block i = none ↔ k < p) ∧ (m.block i = some true ↔ p ≤ k) := by
  obtain ⟨r1, r2, _⟩ := h.bestAt_rec hk
  by_cases hlt : k < p
  · simp [Mgr.block, r1 hlt, hlt]
  · simp [Mgr.block, r2 (Nat.le_of_not_lt hlt), hlt, Nat.le_of_not_lt hlt]

/-- only best-chain blocks below the frontier are header-only -/
theorem PInv.of_pruned {U m p} (h : PInv U m p) {i : Nat} (hr : m.recs i = some ⟨false, false⟩) :
    i ∈ m.best ∧ (U i).height < p := by
  by_cases hm : i ∈ m.best
  · refine ⟨hm, Nat.lt_of_not_le fun hle => ?_⟩
    cases (h.stored i hm hle).symm.trans hr
  · cases h.sidebody i _ hr hm

/-! ### how the invariant moves with the store -/

theorem PInv.store {U m p} (h : PInv U m p) {i : Nat} {s : Bool} (hnb : i ∉ m.best)
    (hpar : m.states (par U i) = true) (hh : (U i).height = (U (par U i)).height + 1)
    (hhdr : (U i).hdrOk = true ∧ (U i).future = false) (hbody : s = true → (U i).bodyOk = true) :
    PInv U { m with states := upd m.states i true, recs := upd m.recs i (some ⟨true, s⟩) } p := by
  have hne : ∀ j ∈ m.best, j ≠ i := fun j hj e => hnb (e ▸ hj)
  refine ⟨h.core.store _ hpar fun _ => hh, h.chain, h.frontier, fun j r hj => ?_,
    fun j hj hlt => ?_, fun j hj hle => ?_, fun j r hj hnm => ?_, fun j hj0 hj => ?_, fun j hj0 hj => ?_⟩
  · by_cases e : j = i
    · simp [upd, e]
    · simp [upd, e] at hj ⊢
      exact h.recstate j r hj
  · simpa [upd, hne j hj] using h.pruned j hj hlt
  · simpa [upd, hne j hj] using h.stored j hj hle
  · by_cases e : j = i
    · simp [upd, e] at hj
      exact hj ▸ rfl
    · simp [upd, e] at hj
      exact h.sidebody j r hj hnm
  · by_cases e : j = i
    · simp [upd, e] at hj
      exact e ▸ hbody hj
    · simp [upd, e] at hj
      exact h.valid j hj0 hj
  · by_cases e : j = i
    · exact e ▸ hhdr
    · simp [upd, e] at hj
      exact h.validHdr j hj0 hj

theorem PInv.push {U m p} (h : PInv U m p) {i : Nat} (hp : par U i = m.tip) (hne : i ≠ 0)
    (hr : m.recs i = some ⟨true, true⟩) : PInv U { m with best := i :: m.best } p := by
  have hlen := h.toWInv.length
  have hf := h.frontier
  have hh := (h.core.closed i (h.recstate i _ hr) hne).2
  rw [hp] at hh
  refine { h with
    core := { h.core with }
    chain := h.chain.push hne (hp ▸ h.toWInv.head?_best)
    frontier := Nat.le_succ_of_le hf
    pruned := fun j hj hlt => ?_
    stored := fun j hj hle => ?_
    sidebody := fun j r hj hnm => h.sidebody j r hj (fun hm => hnm (List.mem_cons_of_mem _ hm)) }
  · rcases List.mem_cons.mp hj with e | e
    · subst e
      omega
    · exact h.pruned j e hlt
  · rcases List.mem_cons.mp hj with e | e
    · exact e ▸ hr
    · exact h.stored j e hle

theorem PInv.drop {U m p} (h : PInv U m p) {c : Nat} (hc : c < m.best.length) (hcp : c + p ≤ m.best.length) :
    PInv U { m with best := m.best.drop c } p := by
  have hsub : ∀ j, j ∈ m.best.drop c → j ∈ m.best := fun j hj => List.mem_of_mem_drop hj
  refine { h with
    core := { h.core with }
    chain := h.chain.drop c hc
    frontier := ?_
    pruned := fun j hj => h.pruned j (hsub j hj)
    stored := fun j hj => h.stored j (hsub j hj)
    sidebody := fun j r hj hnm => ?_ }
  · simp only [List.length_drop]
    omega
  · by_cases hm : j ∈ m.best
    · obtain ⟨k, hk, e⟩ := List.mem_iff_getElem.mp hm
      have hkc : k < c := by
        apply Nat.lt_of_not_le
        intro hle
        apply hnm
        have : m.best[k] = (m.best.drop c)[k - c]'(by simp only [List.length_drop]; omega) := by
          rw [List.getElem_drop]
          congr 1
          omega
        rw [← e, this]
        exact List.getElem_mem _
      have hh := h.toWInv.best_height k hk
      rw [e] at hh
      have := h.stored j hm (by omega)
      rw [hj] at this
      exact Option.some.inj this ▸ rfl
    · exact h.sidebody j r hj hm

/-- complete blocks lie at or above the frontier: if the first `c` blocks of the best chain are
complete, the frontier lies below them -/
theorem PInv.frontier_of_full {U m p} (h : PInv U m p) {c : Nat} (hc : c ≤ (U m.tip).height)
    (hfull : ∀ k, k < c → m.recs (anc U k m.tip) = some ⟨true, true⟩) : c + p ≤ m.best.length := by
  have hw := h.toWInv
  have hlen := hw.length
  cases c with
  | zero => have := h.frontier; omega
  | succ c =>
    have hk : c ≤ (U m.tip).height := Nat.le_of_succ_le hc
    have hh := (h.core.anc_state hw.tip_state c hk).2
    apply Nat.le_of_not_lt
    intro hlt
    have := h.pruned _ (hw.anc_mem hk) (by omega)
    rw [hfull c (Nat.lt_succ_self c)] at this
    cases this

theorem pinv_kept (U : Nat → Blk) (p : Nat) : Kept U (PInv U · p) where
  weak := PInv.toWInv
  sidebody h hr hnb := h.sidebody _ _ hr hnb
  notify _ h := h.congr rfl rfl rfl
  drop c h hc hfull :=
    h.drop (by have := h.toWInv.length; omega) (h.frontier_of_full hc hfull)
  push h hp hne hr := h.push hp hne hr
  validate {m i} h hp hne hr hok := by
    have hs := h.recstate i _ hr
    have hst := h.store (s := true) (h.toWInv.above_tip hp hne hs) (hp ▸ h.toWInv.tip_state)
      (h.core.closed i hs hne).2 (h.validHdr i hne hs) fun _ => hok
    exact hst.push hp hne (upd_same ..)
  store h hk hpar hh hok hfut :=
    h.store (s := false) (fun hb => hk (h.toWInv.known_of_mem hb)) hpar hh ⟨hok, hfut⟩ nofun

/-! ### the rollback, `maybeReorg`, `AddBlocks` -/

/-- **the rollback of a failed reorg cannot fail** on a pruned node either (`rollback_kept`) -/
theorem rollback_p {U m p} (h : PInv U m p) {cs : Nat} (hcs : m.states cs = true) :
    (reorgTo U (reorgTo U m cs).1 m.tip).2 = none ∧
    PInv U (reorgTo U (reorgTo U m cs).1 m.tip).1 p ∧
    Mono m (reorgTo U (reorgTo U m cs).1 m.tip).1 ∧
    (reorgTo U (reorgTo U m cs).1 m.tip).1.best = m.best :=
  rollback_kept (pinv_kept U p) h hcs

/-- the shared tail of `AddBlocks` / `AddValidatedV2Blocks` on a pruned node: exactly the
conclusions of `maybeReorg_spec` — in particular **a failed reorg is always rolled back** -/
theorem maybeReorg_p {U m p} (h : PInv U m p) {cs : Nat} (hcs : m.states cs = true) :
    PInv U (maybeReorg U m cs).1 p ∧
    ((∀ i, m.states i = true → (maybeReorg U m cs).1.states i = true) ∧
     (∀ i, m.recs i = some ⟨true, true⟩ → (maybeReorg U m cs).1.recs i = some ⟨true, true⟩)) ∧
    (((maybeReorg U m cs).2 = none ∧
        ((heavier U cs m.tip = true ∧ (maybeReorg U m cs).1.tip = cs ∧
            (maybeReorg U m cs).1.notified = m.notified + 1) ∨
         (heavier U cs m.tip = false ∧ (maybeReorg U m cs).1 = m))) ∨
     ((maybeReorg U m cs).2 = some .reorgFailed ∧ heavier U cs m.tip = true ∧
        (maybeReorg U m cs).1.best = m.best ∧ (maybeReorg U m cs).1.notified = m.notified)) :=
  maybeReorg_kept (pinv_kept U p) h hcs

/-- **`AddBlocks` on a pruned node**: the invariant (same frontier) is preserved for any batch;
it never panics and a failed reorg is always rolled back (`rollbackFailed` cannot occur); on any
error the best chain and the notification count are as before; the tip moves only to a
sufficiently heavier chain, and then one notification is delivered. -/
theorem addBlocks_p {U p} (hU : WFU U) {m : Mgr} (h : PInv U m p) (batch : List Nat) :
    PInv U (addBlocks U m batch).1 p ∧
    ((∀ i, m.states i = true → (addBlocks U m batch).1.states i = true) ∧
     (∀ i, m.recs i = some ⟨true, true⟩ → (addBlocks U m batch).1.recs i = some ⟨true, true⟩)) ∧
    (((addBlocks U m batch).2 = none ∧
        (((addBlocks U m batch).1.best = m.best ∧ (addBlocks U m batch).1.notified = m.notified) ∨
         (heavier U (addBlocks U m batch).1.tip m.tip = true ∧
            (addBlocks U m batch).1.notified = m.notified + 1))) ∨
     (((addBlocks U m batch).2 = some .missingParent ∨ (addBlocks U m batch).2 = some .future ∨
        (addBlocks U m batch).2 = some .invalidHeader ∨ (addBlocks U m batch).2 = some .reorgFailed) ∧
        (addBlocks U m batch).1.best = m.best ∧ (addBlocks U m batch).1.notified = m.notified)) :=
  addBlocks_kept (pinv_kept U p) hU.hgt h batch

/-! ### `PruneBlocks` -/

/-- the pruning loop started at `h` on a chain whose blocks at heights `[p, h)` have bodies turns
every one of them into a header-only record (it stops only below `p`).  `Nodup` only serves to
know that the record written at height `h` is not the one at height `k < h`. -/
theorem prune_go_from : ∀ (h : Nat) (m : Mgr) (p : Nat), m.best.Nodup → h ≤ m.best.length →
    (∀ k, p ≤ k → k < h → ∀ i, m.bestAt k = some i → (m.block i).isSome = true) →
    ∀ k, p ≤ k → k < h → ∀ i, m.bestAt k = some i → (prune.go h m).recs i = some ⟨false, false⟩ := by
  intro h
  induction h with
  | zero => intro m p _ _ _ k _ hk; omega
  | succ h ih =>
    intro m p hn hlen hall k hpk hk i hi
    obtain ⟨i0, hi0⟩ : ∃ i0, m.bestAt h = some i0 := ⟨_, bestAt_of_lt (by omega)⟩
    obtain ⟨sp, hsp⟩ := Option.isSome_iff_exists.mp (hall h (by omega) (by omega) i0 hi0)
    have hgo : prune.go (h + 1) m = prune.go h { m with recs := upd m.recs i0 (some ⟨false, false⟩) } := by
      rw [prune.go]; simp [hi0, hsp]
    rw [hgo]
    by_cases hkh : k = h
    · subst hkh
      cases hi.symm.trans hi0
      rcases (prune_go_spec k { m with recs := upd m.recs i (some ⟨false, false⟩) }).2.2.2 i with e | ⟨e, _⟩
      · rw [e]; simp [upd]
      · exact e
    · refine ih { m with recs := upd m.recs i0 (some ⟨false, false⟩) } p hn (Nat.le_of_succ_le hlen)
        (fun k' hpk' hk' j hj => ?_) k hpk (by omega) i hi
      have hne : j ≠ i0 := by
        intro e
        have := bestAt_inj hn hj (e ▸ hi0)
        omega
      simpa [Mgr.block, upd, hne] using hall k' hpk' (by omega) j hj

/-- the loop started at `q` on a node with frontier `p` gives frontier `p' = max p q` (said by three
inequalities, which is what `omega` and the field proofs consume) -/
theorem prune_go_p {U m p} (h : PInv U m p) {q p' : Nat} (hq : q ≤ m.best.length) (h1 : p ≤ p')
    (h2 : q ≤ p') (h3 : p' ≤ p ∨ p' ≤ q) : PInv U (prune.go q m) p' := by
  have hw := h.toWInv
  have hf := h.frontier
  obtain ⟨p1, p2, _, p4⟩ := prune_go_spec q m
  have hall := prune_go_from q m p hw.nodup hq
    (fun k hpk _ i hi => by simp [Mgr.block, (h.bestAt_rec hi).2.1 hpk])
  generalize prune.go q m = m' at p1 p2 p4 hall ⊢
  have hsome : ∀ i, (m.recs i).isSome = true → (m'.recs i).isSome = true := by
    intro i hi
    rcases p4 i with e | ⟨e, _⟩ <;> rw [e]
    · exact hi
    · rfl
  refine ⟨⟨h.core.h0, p2 ▸ h.core.closed, fun i hi => hsome i (h.core.staterec i (p2 ▸ hi))⟩, p1 ▸ h.chain,
    by rw [p1]; omega, fun i r hr => ?_, fun i hi hlt => ?_, fun i hi hle => ?_, fun i r hr hnm => ?_,
    fun i hi0 hr => ?_, p2 ▸ h.validHdr⟩
  · rw [p2]
    rcases p4 i with e | ⟨_, e, _⟩
    · exact h.recstate i r (e ▸ hr)
    · obtain ⟨r', hr'⟩ := Option.isSome_iff_exists.mp e
      exact h.recstate i r' hr'
  · rw [p1] at hi
    by_cases hp : (U i).height < p
    · rcases p4 i with e | ⟨e, _⟩
      · rw [e]; exact h.pruned i hi hp
      · exact e
    · exact hall _ (Nat.le_of_not_lt hp) (by omega) i (hw.bestAt_of_mem hi)
  · rw [p1] at hi
    rcases p4 i with e | ⟨_, _, k, hk, hat⟩
    · rw [e]; exact h.stored i hi (Nat.le_trans h1 hle)
    · have := (hw.bestAt_height hat).1
      omega
  · rw [p1] at hnm
    rcases p4 i with e | ⟨_, _, k, _, hat⟩
    · exact h.sidebody i r (e ▸ hr) hnm
    · exact absurd (bestAt_mem hat) hnm
  · rcases p4 i with e | ⟨e, _⟩
    · exact h.valid i hi0 (e ▸ hr)
    · rw [e] at hr; cases hr

/-- **`PruneBlocks(height)` on a pruned node moves the frontier to `max p (min height (tip+1))`**:
afterwards exactly the best-chain blocks below the new frontier are header-only -/
theorem prune_p {U m p} (h : PInv U m p) (height : Nat) :
    PInv U (prune m height) (max p (min height m.best.length)) := by
  have hH : m.tipHeight + 1 = m.best.length :=
    Nat.sub_add_cancel (List.length_pos_iff.mpr h.chain.ne_nil)
  show PInv U (prune.go (min height (m.tipHeight + 1)) m) _
  rw [hH]
  exact prune_go_p h (Nat.min_le_right _ _) (Nat.le_max_left _ _) (Nat.le_max_right _ _) (by omega)

end Verif.Chain
