/-
The chain-manager model (`Model/Chain.lean`) under **any** peer behaviour.

`Chain.Inv` (Lemmas/Chain.lean) is the invariant of a manager that is only ever fed through
`AddBlocks`, or through `AddValidatedV2Blocks` with batches that are `PreValidated` *on an applied
parent*.  The syncer does not guarantee the latter: a request below the require height that is
not heavier is stored without being applied, and the next request — based on its last block — goes
through the checkpoint path.  `AddValidatedV2Blocks` then stores blocks **with** a supplement on
top of a block that has none (clause `suppclosed` of `Chain.SInv` fails), and if the peer made the
checkpoint state up, blocks with a supplement that never passed `ValidateBlock` on the real
chain (clause `valid` fails) — see `C11.chain_inv_not_preserved`.

What survives is `InvW`: a stored supplement means "valid **provided the ancestry is valid**"
(`validW`), and every block of the best chain has a fully valid ancestry (`bestvalid`).  The
elementary store, push and drop steps keep it (`invW_kept`), hence so does the reorg machinery of
Lemmas/ChainKept.lean.
-/
import Verif.Lemmas.ChainKept
import Verif.Lemmas.Sync
import Verif.Model.SyncChain

namespace Verif.SyncC
open Verif.Chain

/-- `i` and all its ancestors pass `ValidateBlock` (chain-model universe) -/
inductive VT (U : Nat → Blk) : Nat → Prop
  | gen : VT U 0
  | step {i : Nat} : i ≠ 0 → VT U (par U i) → (U i).bodyOk = true → VT U i

theorem VT.parent {U : Nat → Blk} {i : Nat} (h : VT U i) (hne : i ≠ 0) : VT U (par U i) := by
  cases h with
  | gen => exact absurd rfl hne
  | step _ hp _ => exact hp

theorem VT.body {U : Nat → Blk} {i : Nat} (h : VT U i) (hne : i ≠ 0) : (U i).bodyOk = true := by
  cases h with
  | gen => exact absurd rfl hne
  | step _ _ hb => exact hb

/-- heights are depths in the parent tree (a convention of the universe, not a consensus check) -/
structure WFH (U : Nat → Blk) : Prop where
  h0 : (U 0).height = 0
  p0 : par U 0 = 0
  hgt : ∀ b, b ≠ 0 → (U b).height = (U (par U b)).height + 1

structure SInvW (U : Nat → Blk) (m : Mgr) : Prop where
  h0 : (U 0).height = 0
  gen : m.recs 0 = some ⟨true, true⟩ ∧ m.states 0 = true
  closed : ∀ i, m.states i = true → i ≠ 0 →
    m.states (par U i) = true ∧ (U i).height = (U (par U i)).height + 1
  recstate : ∀ i r, m.recs i = some r → r.body = true ∧ m.states i = true
  staterec : ∀ i, m.states i = true → (m.recs i).isSome = true
  /-- a stored supplement means the block passed `ValidateBlock` **if its whole ancestry did** -/
  validW : ∀ i, i ≠ 0 → m.recs i = some ⟨true, true⟩ → VT U (par U i) → (U i).bodyOk = true

theorem SInvW.core {U m} (h : SInvW U m) : Core U m := ⟨h.h0, h.closed, h.staterec⟩

/-- the invariant of the manager under any peer behaviour -/
structure InvW (U : Nat → Blk) (m : Mgr) : Prop where
  s : SInvW U m
  chain : Chain U m.best
  bestsupp : ∀ i ∈ m.best, m.recs i = some ⟨true, true⟩
  /-- every block of the best chain, and all its ancestors, passed `ValidateBlock` -/
  bestvalid : ∀ i ∈ m.best, VT U i

theorem inv_applied_VT {U m} (h : Chain.Inv U m) : ∀ n i, (U i).height = n → m.recs i = some ⟨true, true⟩ → VT U i := by
  intro n
  induction n using Nat.strongRecOn with
  | ind n ih =>
    intro i hk hi
    by_cases e : i = 0
    · subst e; exact .gen
    · have hp := h.s.suppclosed i e hi
      have hs := (h.s.recstate i _ hi).2
      have hh := (h.s.closed i hs e).2
      exact .step e (ih _ (by omega) (par U i) rfl hp) (h.s.valid i e hi)

theorem inv_toW {U m} (h : Inv U m) : InvW U m := by
  have hv := inv_applied_VT h
  exact { h with
    s := { h.s with validW := fun i hne hr _ => h.s.valid i hne hr }
    bestvalid := fun i hi => hv _ i rfl (h.bestsupp i hi) }

theorem invW_init {U} (hU : WFH U) : InvW U Mgr.init := inv_toW (Mgr.init_inv hU.h0)

theorem InvW.toWInv {U m} (h : InvW U m) : WInv U m :=
  ⟨h.s.core, h.chain, fun i r hr => (h.s.recstate i r hr).2, fun i hi => .inl (h.bestsupp i hi)⟩

theorem InvW.length {U m} (h : InvW U m) : m.best.length = (U m.tip).height + 1 := h.toWInv.length

theorem InvW.with_best {U m} (h : InvW U m) {best : List Nat} (n : Nat) (hc : Chain U best)
    (hb : ∀ i ∈ best, m.recs i = some ⟨true, true⟩) (hv : ∀ i ∈ best, VT U i) :
    InvW U { m with best := best, notified := n } :=
  { s := { h.s with }, chain := hc, bestsupp := hb, bestvalid := hv }

theorem revertTipW {U m} (h : InvW U m) {t b : Nat} {rest : List Nat} (hb : m.best = t :: b :: rest) :
    revertTip U m = .ok { m with best := b :: rest } ∧ InvW U { m with best := b :: rest } := by
  obtain ⟨hc, _, hp⟩ := (hb ▸ h.chain).tail
  have hsub : ∀ i ∈ b :: rest, i ∈ m.best := fun i hi => hb ▸ List.mem_cons_of_mem _ hi
  exact ⟨revertTip_stored hb (h.bestsupp t (hb ▸ List.mem_cons_self ..)) (hp ▸ h.toWInv.best_state (hsub b (List.mem_cons_self ..))),
    h.with_best _ hc (fun i hi => h.bestsupp i (hsub i hi)) fun i hi => h.bestvalid i (hsub i hi)⟩

/-- storing block `b` on a stored parent, with (`s = true`) or without a supplement: without one,
`b` must not already have one; with one, `b` must be valid relative to its ancestry -/
theorem storeW {U m} (h : InvW U m) {b : Nat} {s : Bool} (hpar : m.states (par U b) = true)
    (hh : b ≠ 0 → (U b).height = (U (par U b)).height + 1)
    (hnot : s = false → m.block b ≠ some true)
    (hcond : s = true → VT U (par U b) → (U b).bodyOk = true) :
    InvW U { m with states := upd m.states b true, recs := upd m.recs b (some ⟨true, s⟩) } := by
  obtain ⟨hc, hrs, hsupp⟩ := store_base h.s.core h.s.recstate hpar hh
    fun e hr => hnot e (by simp [Mgr.block, hr])
  refine ⟨⟨h.s.h0, ⟨hsupp 0 h.s.gen.1, upd_true_of_true b h.s.gen.2⟩, hc.closed, hrs, hc.staterec,
    fun j hj0 hj hv => ?_⟩, h.chain, fun i hi => hsupp i (h.bestsupp i hi), h.bestvalid⟩
  dsimp only at hj
  by_cases e : j = b
  · subst e
    rw [upd_same] at hj
    exact hcond (congrArg Rec.supp (Option.some.inj hj)) hv
  · rw [upd_other _ _ _ _ e] at hj
    exact h.s.validW j hj0 hj hv

theorem InvW.push {U m} (h : InvW U m) {i : Nat} (hp : par U i = m.tip) (hne : i ≠ 0)
    (hr : m.recs i = some ⟨true, true⟩) : InvW U { m with best := i :: m.best } := by
  have hv : VT U (par U i) := hp ▸ h.bestvalid _ h.toWInv.tip_mem
  refine h.with_best _ (h.chain.push hne (hp ▸ h.toWInv.head?_best)) (fun j hj => ?_) fun j hj => ?_
  · rcases List.mem_cons.mp hj with rfl | hj
    · exact hr
    · exact h.bestsupp j hj
  · rcases List.mem_cons.mp hj with rfl | hj
    · exact .step hne hv (h.s.validW _ hne hr hv)
    · exact h.bestvalid j hj

theorem invW_kept (U : Nat → Blk) : Chain.Kept U (InvW U) where
  weak := InvW.toWInv
  sidebody h hr _ := (h.s.recstate _ _ hr).1
  notify n h := h.with_best n h.chain h.bestsupp h.bestvalid
  drop c h hc _ := h.with_best _ (h.toWInv.drop hc).chain (fun i hi => h.bestsupp i (List.mem_of_mem_drop hi))
    fun i hi => h.bestvalid i (List.mem_of_mem_drop hi)
  push h hp hne hr := h.push hp hne hr
  validate {m i} h hp hne hr hok := by
    have hs := (h.s.recstate i _ hr).2
    have hst := storeW h (s := true) (hp ▸ h.toWInv.tip_state) (fun _ => (h.s.closed i hs hne).2) nofun fun _ _ => hok
    exact hst.push hp hne (upd_same ..)
  store h hk hpar hh _ _ := storeW h (s := false) hpar (fun _ => hh) (fun _ hb => hk (.inl hb)) nofun

/-- the shared tail of `AddBlocks` / `AddValidatedV2Blocks` under the weak invariant: it never
panics, a failed reorg is always rolled back to exactly the old best chain -/
theorem maybeReorgW {U m} (h : InvW U m) {cs : Nat} (hcs : m.states cs = true) :
    InvW U (maybeReorg U m cs).1 ∧
    ((∀ i, m.states i = true → (maybeReorg U m cs).1.states i = true) ∧
     (∀ i, m.recs i = some ⟨true, true⟩ → (maybeReorg U m cs).1.recs i = some ⟨true, true⟩)) ∧
    (((maybeReorg U m cs).2 = none ∧
        ((heavier U cs m.tip = true ∧ (maybeReorg U m cs).1.tip = cs ∧
            (maybeReorg U m cs).1.notified = m.notified + 1) ∨
         (heavier U cs m.tip = false ∧ (maybeReorg U m cs).1 = m))) ∨
     ((maybeReorg U m cs).2 = some .reorgFailed ∧ heavier U cs m.tip = true ∧
        (maybeReorg U m cs).1.best = m.best ∧ (maybeReorg U m cs).1.notified = m.notified)) :=
  maybeReorg_kept (invW_kept U) h hcs

/-! ### the storing loops -/

/-- **`AddBlocks` under the weak invariant**, for any batch: same conclusion as `addBlocks_spec` -/
theorem addBlocksW {U} (hU : WFH U) {m : Mgr} (h : InvW U m) (batch : List Nat) :
    InvW U (addBlocks U m batch).1 ∧
    ((∀ i, m.states i = true → (addBlocks U m batch).1.states i = true) ∧
     (∀ i, m.recs i = some ⟨true, true⟩ → (addBlocks U m batch).1.recs i = some ⟨true, true⟩)) ∧
    (((addBlocks U m batch).2 = none ∧
        (((addBlocks U m batch).1.best = m.best ∧ (addBlocks U m batch).1.notified = m.notified) ∨
         (heavier U (addBlocks U m batch).1.tip m.tip = true ∧
            (addBlocks U m batch).1.notified = m.notified + 1))) ∨
     (((addBlocks U m batch).2 = some .missingParent ∨ (addBlocks U m batch).2 = some .future ∨
        (addBlocks U m batch).2 = some .invalidHeader ∨ (addBlocks U m batch).2 = some .reorgFailed) ∧
        (addBlocks U m batch).1.best = m.best ∧ (addBlocks U m batch).1.notified = m.notified)) :=
  addBlocks_kept (invW_kept U) (fun b h0 _ => hU.hgt b h0) h batch

/-- the storing loop of `AddValidatedV2Blocks` on a parent-linked batch whose blocks are valid
relative to their ancestry (what the gate establishes whatever the peer does) -/
theorem addV2LoopW {U} (hU : WFH U) : ∀ (batch : List Nat) (m : Mgr) (p : Nat), InvW U m →
    m.states p = true → LinkedFrom U p batch →
    (∀ b ∈ batch, VT U (par U b) → (U b).bodyOk = true) →
    InvW U (addValidatedV2.go U batch m).1 ∧
    ((addValidatedV2.go U batch m).2 = none ∨ (addValidatedV2.go U batch m).2 = some .notV2) ∧
    (addValidatedV2.go U batch m).1.best = m.best ∧
    (addValidatedV2.go U batch m).1.notified = m.notified ∧
    ((∀ i, m.states i = true → (addValidatedV2.go U batch m).1.states i = true) ∧
     (∀ i, m.recs i = some ⟨true, true⟩ → (addValidatedV2.go U batch m).1.recs i = some ⟨true, true⟩)) ∧
    ((addValidatedV2.go U batch m).2 = none → (addValidatedV2.go U batch m).1.states (batch.getLastD p) = true) := by
  intro batch
  induction batch with
  | nil => intro m p h hp _ _; simp [addValidatedV2.go, h, hp]
  | cons b bs ih =>
    intro m p h hp ⟨hl1, hl2⟩ hall
    rw [addValidatedV2.go]
    cases hv2 : (U b).v2 with
    | false => simp [h]
    | true =>
      simp only [Bool.not_true, Bool.false_eq_true, if_false]
      have hinv' := storeW h (s := true) (hl1 ▸ hp) (hU.hgt b) nofun (fun _ => hall b (by simp))
      obtain ⟨j1, j2, j3, j4, j5, j6⟩ := ih _ b hinv' (by simp [upd]) hl2 (fun x hx => hall x (List.mem_cons_of_mem _ hx))
      refine ⟨j1, j2, j3, j4, ⟨?_, ?_⟩, ?_⟩
      · intro i hi; apply j5.1; by_cases e : i = b <;> simp [upd, e, hi]
      · intro i hi; apply j5.2; by_cases e : i = b <;> simp [upd, e, hi]
      · intro he
        rw [List.getLastD_cons]
        exact j6 he

/-- **`AddValidatedV2Blocks` under the weak invariant**: for a parent-linked batch of blocks that
are valid relative to their ancestry — *whatever the manager knows about the parent* (it only has
to have a state, which the manager checks itself) — the invariant is preserved, there is no panic
and no failed rollback, an error leaves the best chain as it was, the tip moves only to a
sufficiently heavier block. -/
theorem addValidatedV2W {U} (hU : WFH U) {m : Mgr} (h : InvW U m) (batch : List Nat) (nStates : Nat)
    (hl : ∀ b0 rest, batch = b0 :: rest → LinkedFrom U (par U b0) batch)
    (hc : ∀ b ∈ batch, VT U (par U b) → (U b).bodyOk = true) :
    InvW U (addValidatedV2 U m batch nStates).1 ∧
    (((addValidatedV2 U m batch nStates).2 = none ∧
        (((addValidatedV2 U m batch nStates).1.best = m.best ∧
            (addValidatedV2 U m batch nStates).1.notified = m.notified) ∨
         (heavier U (addValidatedV2 U m batch nStates).1.tip m.tip = true ∧
            (addValidatedV2 U m batch nStates).1.notified = m.notified + 1))) ∨
     (((addValidatedV2 U m batch nStates).2 = some .lenMismatch ∨
        (addValidatedV2 U m batch nStates).2 = some .missingParent ∨
        (addValidatedV2 U m batch nStates).2 = some .notV2 ∨
        (addValidatedV2 U m batch nStates).2 = some .reorgFailed) ∧
        (addValidatedV2 U m batch nStates).1.best = m.best ∧
        (addValidatedV2 U m batch nStates).1.notified = m.notified)) := by
  cases batch with
  | nil => simp [addValidatedV2, h]
  | cons b0 rest =>
    have hlink := hl b0 rest rfl
    simp only [addValidatedV2]
    by_cases hn : nStates ≠ (b0 :: rest).length
    · simp only [if_pos hn]; simp [h]
    · simp only [if_neg hn]
      cases hps : m.states (U b0).parent with
      | false => simp [h]
      | true =>
        simp only [Bool.not_true, Bool.false_eq_true, if_false]
        obtain ⟨j1, j2, j3, j4, j5, j6⟩ := addV2LoopW hU (b0 :: rest) m (par U b0) h (by simpa [par] using hps) hlink hc
        rcases hg : addValidatedV2.go U (b0 :: rest) m with ⟨m1, e⟩
        rw [hg] at j1 j2 j3 j4 j5 j6
        simp only at j1 j2 j3 j4 j5 j6
        rcases j2 with j2 | j2
        · subst j2
          simp only
          have hcs : m1.states ((b0 :: rest).getLastD b0) = true := by
            have := j6 rfl
            rwa [List.getLastD_cons] at this ⊢
          exact ⟨(maybeReorgW j1 hcs).1,
            (maybeReorg_outcome (invW_kept U) j1 j3 j4 hcs).imp_errs fun ke => .inr (.inr (.inr ke))⟩
        · subst j2
          simp only
          exact ⟨j1, Or.inr ⟨Or.inr (Or.inr (Or.inl (by trivial))), j3, j4⟩⟩

/-! ### the gates in front of the chain-manager model -/

open Verif.Sync

/-- no block of the universe is a variant of another (same header hash, other body): the
chain-manager model identifies a block with its ID, so the "same ID, other body" corruption is
outside the theorems on `Chain.Mgr` (it is covered on the minimal manager of `Model/Sync.lean`) -/
def NoVariants (U : Univ) : Prop := ∀ b, (U b).cid = b

/-- hash injectivity as the syncer relies on it (cf. `Sync.HashBinds`) -/
def HashBindsC (U : Univ) : Prop :=
  ∀ cp : CpResp, cp.commitOk = true → VT (toChain U) cp.blk → cp.genuine = true

theorem validateChainC {U : Univ} (nv : NoVariants U) (hU : WFH (toChain U)) (g : Bool) (bs : List Nat) :
    ∀ cs, validateChain U g cs bs = true → (VT (toChain U) cs → g = true) →
      LinkedFrom (toChain U) cs bs ∧ ∀ b ∈ bs, VT (toChain U) (par (toChain U) b) → (toChain U b).bodyOk = true := by
  induction bs with
  | nil => intro cs _ _; exact ⟨trivial, fun b hb => by simp at hb⟩
  | cons a t ih =>
    intro cs hv hg
    simp only [validateChain, Bool.and_eq_true, beq_iff_eq, Bool.or_eq_true, Bool.not_eq_eq_eq_not,
      Bool.not_true] at hv
    obtain ⟨⟨⟨hpar, _⟩, hbody⟩, hrest⟩ := hv
    rw [nv cs] at hpar
    have hpa : par (toChain U) a = cs := hpar
    have hga : VT (toChain U) a → g = true := by
      intro hva
      by_cases e : a = 0
      · subst e
        have : cs = 0 := by rw [← hpa]; exact hU.p0
        exact hg (this ▸ VT.gen)
      · exact hg (hpa ▸ hva.parent e)
    obtain ⟨l2, c2⟩ := ih a hrest hga
    refine ⟨⟨hpa, l2⟩, ?_⟩
    intro b hb hp
    rcases List.mem_cons.mp hb with rfl | hb
    · have := hg (hpa ▸ hp)
      rcases hbody with hbody | hbody
      · rw [this] at hbody; cases hbody
      · exact hbody
    · exact c2 b hb hp

/-- what the checkpoint gate hands to `AddValidatedV2Blocks`, whatever the peer does: a batch
parent-linked from the checkpoint block, whose blocks are valid **relative to their ancestry** -/
theorem gate_v2_contract {U : Univ} (nv : NoVariants U) (hU : WFH (toChain U)) (hb : HashBindsC U)
    (cfg : Cfg) (q : Req) (r : BResp) (bs : List Nat) (h : gateBatch U cfg q r = .ok bs true) :
    LinkedFrom (toChain U) q.base bs ∧
    (∀ b ∈ bs, VT (toChain U) (par (toChain U) b) → (toChain U b).bodyOk = true) := by
  obtain ⟨_, cp, _, _, _, _, hid, hc, _, _, _, _, hv⟩ := gateBatch_ok_true cfg q r bs h
  have hcp : cp.blk = q.base := by
    have : (U cp.blk).cid = (U q.base).cid := by simpa [sameId] using hid
    rwa [nv, nv] at this
  rw [← hcp]
  exact validateChainC nv hU cp.genuine bs cp.blk hv (hb cp hc)

theorem linked_all_body {U : Nat → Chain.Blk} : ∀ (l : List Nat) (p : Nat), VT U p → LinkedFrom U p l →
    (∀ b ∈ l, VT U (par U b) → (U b).bodyOk = true) → ∀ b ∈ l, (U b).bodyOk = true := by
  intro l
  induction l with
  | nil => intro _ _ _ _ b hb; simp at hb
  | cons a t ih =>
    intro p hp ⟨h1, h2⟩ hcond b hbm
    have ha : (U a).bodyOk = true := hcond a (by simp) (h1 ▸ hp)
    have hva : VT U a := by
      by_cases e : a = 0
      · subst e; exact .gen
      · exact .step e (h1 ▸ hp) ha
    rcases List.mem_cons.mp hbm with rfl | hbm
    · exact ha
    · exact ih a hva h2 (fun x hx => hcond x (List.mem_cons_of_mem _ hx)) b hbm

/-- the base of the first request of a round is a history entry, i.e. a block of the best chain:
it has been applied -/
theorem first_request_base_applied {U : Nat → Chain.Blk} {m : Mgr} (h : InvW U m) {base : Nat}
    (hb : base ∈ Sync.history m.best) : m.recs base = some ⟨true, true⟩ :=
  h.bestsupp base (Sync.mem_of_mem_history m.best h.chain.ne_nil hb)

/-- a manager step either keeps the best chain or moves the tip to a sufficiently heavier block -/
def TipStepC (U : Nat → Chain.Blk) (m m' : Mgr) : Prop := m'.best = m.best ∨ Chain.heavier U m'.tip m.tip = true

theorem TipStepC.work {U : Nat → Chain.Blk} {m m' : Mgr} (h : TipStepC U m m') : (U m.tip).work ≤ (U m'.tip).work := by
  rcases h with h | h
  · simp [Mgr.tip, h]
  · have := Chain.heavier_iff.mp h
    omega

theorem TipStepC.of_outcome {U : Nat → Chain.Blk} {m m' : Mgr} {e : Option Err} {P : Prop}
    (h : AddOutcome U m m' e P) : TipStepC U m m' :=
  h.best_or_heavier

theorem stepBatchC_spec {U : Univ} (nv : NoVariants U) (hU : WFH (toChain U)) (hb : HashBindsC U)
    (cfg : Cfg) (m : Mgr) (q : Req) (r : BResp) (h : InvW (toChain U) m) :
    InvW (toChain U) (stepBatchC U cfg m q r).1 ∧ TipStepC (toChain U) m (stepBatchC U cfg m q r).1 := by
  unfold stepBatchC
  split
  · exact ⟨h, .inl rfl⟩
  · exact ⟨h, .inl rfl⟩
  · rename_i bs pre hg
    cases pre
    · obtain ⟨i1, _, i3⟩ := addBlocksW hU h bs
      exact ⟨i1, .of_outcome i3⟩
    · obtain ⟨hl, hc⟩ := gate_v2_contract nv hU hb cfg q r bs hg
      obtain ⟨i1, i3⟩ := addValidatedV2W hU h bs bs.length (fun b0 rest e => by subst e; exact ⟨rfl, hl.2⟩) hc
      exact ⟨i1, .of_outcome i3⟩

theorem runBatchesC_spec {U : Univ} (nv : NoVariants U) (hU : WFH (toChain U)) (hb : HashBindsC U)
    (cfg : Cfg) (qs : List Req) : ∀ (m : Mgr) (rs : List BResp), InvW (toChain U) m →
    InvW (toChain U) (runBatchesC U cfg m qs rs).1 ∧
      ((toChain U) m.tip).work ≤ ((toChain U) (runBatchesC U cfg m qs rs).1.tip).work := by
  induction qs with
  | nil => intro m rs h; simp [runBatchesC, h]
  | cons q qs ih =>
    intro m rs h
    cases rs with
    | nil => simp [runBatchesC, h]
    | cons r rs =>
      simp only [runBatchesC]
      obtain ⟨s1, s2⟩ := stepBatchC_spec nv hU hb cfg m q r h
      split
      · obtain ⟨t1, t2⟩ := ih _ rs s1
        exact ⟨t1, Nat.le_trans s2.work t2⟩
      · exact ⟨s1, s2.work⟩

theorem stepC_spec {U : Univ} (nv : NoVariants U) (hU : WFH (toChain U)) (hb : HashBindsC U)
    (cfg : Cfg) (m : Mgr) (e : Ev) (h : InvW (toChain U) m) :
    InvW (toChain U) (stepC U cfg m e).1 ∧
      ((toChain U) m.tip).work ≤ ((toChain U) (stepC U cfg m e).1.tip).work := by
  cases e with
  | sync hs bs =>
    simp only [stepC, stepSyncC]
    split
    · exact ⟨h, Nat.le_refl _⟩
    · exact ⟨h, Nat.le_refl _⟩
    · exact runBatchesC_spec nv hU hb cfg _ m bs h
  | batch q r =>
    obtain ⟨s1, s2⟩ := stepBatchC_spec nv hU hb cfg m q r h
    exact ⟨s1, s2.work⟩
  | relayHeader x => exact ⟨h, Nat.le_refl _⟩
  | relayOutline b ms =>
    obtain ⟨i1, _, i3⟩ := addBlocksW hU h [b]
    show InvW _ (stepOutlineC U m b ms).1 ∧ _ ≤ (toChain U (stepOutlineC U m b ms).1.tip).work
    fun_cases stepOutlineC U m b ms
    -- the last case is the only branch that calls `addBlocks`
    case case7 => exact ⟨i1, (TipStepC.of_outcome i3).work⟩
    all_goals exact ⟨h, Nat.le_refl _⟩
  | relayTxns k e a v => exact ⟨h, Nat.le_refl _⟩

theorem runC_spec {U : Univ} (nv : NoVariants U) (hU : WFH (toChain U)) (hb : HashBindsC U)
    (cfg : Cfg) (es : List Ev) : ∀ m : Mgr, InvW (toChain U) m →
    InvW (toChain U) (runC U cfg m es) ∧ ((toChain U) m.tip).work ≤ ((toChain U) (runC U cfg m es).tip).work := by
  induction es with
  | nil => intro m h; exact ⟨h, Nat.le_refl _⟩
  | cons e es ih =>
    intro m h
    obtain ⟨s1, s2⟩ := stepC_spec nv hU hb cfg m e h
    obtain ⟨t1, t2⟩ := ih _ s1
    exact ⟨t1, Nat.le_trans s2 t2⟩

end Verif.SyncC
