/-
The properties the chain manager keeps (`Kept`): whatever survives the elementary store, push and
drop steps survives `reorgTo`, the rollback and `AddBlocks`, with the same outcomes (`*_kept`).
The instances: `inv_kept` for `Inv`, the invariant of an unpruned node, whose corollaries here are
named `*_spec`; `pinv_kept` for `PInv` (Lemmas/Prune.lean, corollaries `*_p`); `invW_kept` for
`SyncC.InvW` (Lemmas/SyncChain.lean, corollaries `*W`).  The rest of the file is about `Inv` alone:
`Inv.store`, what the harness guarantees of the universe (`WFU`), the initial store, and
`AddValidatedV2Blocks` on pre-validated batches.
-/
import Verif.Lemmas.Chain

namespace Verif.Chain

/-- the property `P` of the manager implies `WInv`, leaves records off the best chain their
bodies, and survives the elementary steps of which `reorgTo` and `AddBlocks` are made -/
structure Kept (U : Nat → Blk) (P : Mgr → Prop) : Prop where
  weak : ∀ {m}, P m → WInv U m
  /-- only best-chain blocks are ever pruned -/
  sidebody : ∀ {m i r}, P m → m.recs i = some r → i ∉ m.best → r.body = true
  notify : ∀ {m} (n : Nat), P m → P { m with notified := n }
  /-- completely stored blocks are taken off the best chain -/
  drop : ∀ {m} (c : Nat), P m → c ≤ (U m.tip).height →
    (∀ k, k < c → m.recs (anc U k m.tip) = some ⟨true, true⟩) → P { m with best := m.best.drop c }
  /-- a completely stored block that attaches to the tip extends the best chain -/
  push : ∀ {m i}, P m → par U i = m.tip → i ≠ 0 → m.recs i = some ⟨true, true⟩ →
    P { m with best := i :: m.best }
  /-- so does one stored without supplement whose body is valid: it gets its supplement -/
  validate : ∀ {m i}, P m → par U i = m.tip → i ≠ 0 → m.recs i = some ⟨true, false⟩ →
    (U i).bodyOk = true →
    P { m with states := upd m.states i true, recs := upd m.recs i (some ⟨true, true⟩), best := i :: m.best }
  /-- a new block with a valid header on a stored parent is stored without supplement -/
  store : ∀ {m b}, P m → ¬ m.known b → m.states (par U b) = true →
    (U b).height = (U (par U b)).height + 1 → (U b).hdrOk = true → (U b).future = false →
    P { m with states := upd m.states b true, recs := upd m.recs b (some ⟨true, false⟩) }

section Kept
variable {U : Nat → Blk} {P : Mgr → Prop} (K : Kept U P)
include K

theorem Kept.above_tip {m} (h : P m) {i : Nat} (hp : par U i = m.tip) (hne : i ≠ 0)
    (hs : m.states i = true) : ∃ s, m.recs i = some ⟨true, s⟩ := by
  obtain ⟨⟨bd, s⟩, hr⟩ := Option.isSome_iff_exists.mp ((K.weak h).core.staterec i hs)
  have hbody : bd = true := K.sidebody h hr ((K.weak h).above_tip hp hne hs)
  exact ⟨s, hbody ▸ hr⟩

/-- `applyTip` of a stored block that attaches to the tip: it goes on the best chain, validated
now unless it carries a supplement already; the only failure is an invalid body -/
theorem applyTip_kept {m} (h : P m) {i : Nat} (hp : par U i = m.tip) (hne : i ≠ 0)
    (hs : m.states i = true) :
    (∃ m', applyTip U m i = .ok m' ∧ P m' ∧ Mono m m' ∧ m'.best = i :: m.best ∧
      m'.recs i = some ⟨true, true⟩) ∨
    (applyTip U m i = .error .invalidBlock ∧ m.recs i ≠ some ⟨true, true⟩ ∧ (U i).bodyOk = false) := by
  obtain ⟨s, hr⟩ := K.above_tip h hp hne hs
  cases s with
  | true => exact .inl ⟨_, applyTip_stored hp hr, K.push h hp hne hr, Mono.of_best m _, rfl, hr⟩
  | false =>
    cases hok : (U i).bodyOk with
    | false => exact .inr ⟨applyTip_invalid hp hr hok, by simp [hr], rfl⟩
    | true =>
      exact .inl ⟨_, applyTip_valid hp hr hok, K.validate h hp hne hr hok, mono_store m i _, rfl, upd_same ..⟩

/-- applying an attachable list either applies all of it or stops at the first block without a
supplement whose body is invalid; the blocks between the old tip and the new one are then
completely stored -/
theorem applyAll_kept : ∀ (l : List Nat) (m : Mgr), P m → Attach U m m.tip l →
    P (applyAll U l m).1 ∧ Mono m (applyAll U l m).1 ∧
    ((applyAll U l m).2 = none → (applyAll U l m).1.tip = l.getLastD m.tip) ∧
    ((applyAll U l m).2 ≠ none → (applyAll U l m).2 = some .invalidBlock) ∧
    ((∀ x ∈ l, m.recs x = some ⟨true, true⟩ ∨ (U x).bodyOk = true) → (applyAll U l m).2 = none) ∧
    ∃ f, f ≤ (U (applyAll U l m).1.tip).height ∧ anc U f (applyAll U l m).1.tip = m.tip ∧
      ∀ k, k < f → (applyAll U l m).1.recs (anc U k (applyAll U l m).1.tip) = some ⟨true, true⟩ := by
  intro l
  induction l with
  | nil => exact fun m h _ => ⟨h, Mono.refl m, fun _ => rfl, fun hne => absurd rfl hne, fun _ => rfl, 0, Nat.zero_le _, rfl, nofun⟩
  | cons x xs ih =>
    intro m h ⟨hp, hne, hs, hrest⟩
    rcases applyTip_kept K h hp hne hs with ⟨m', hok, hinv', hmono, hbest, hrx⟩ | ⟨herr, hnot, hbad⟩
    · have htip' : m'.tip = x := by simp [Mgr.tip, hbest]
      obtain ⟨i1, i2, i3, i4, i5, f, hf, hfx, hfull⟩ := ih m' hinv' (htip' ▸ Attach.mono hmono hrest)
      rw [applyAll_ok hok]
      refine ⟨i1, hmono.trans i2, fun he => ?_, i4, fun hall => ?_, f + 1, ?_, ?_, fun k hk => ?_⟩
      · rw [i3 he, htip', List.getLastD_cons]
      · exact i5 fun y hy => (hall y (List.mem_cons_of_mem _ hy)).imp_left (hmono.supp y)
      · have hw1 := K.weak i1
        have hh := (hw1.core.anc_state hw1.tip_state f hf).2
        have hx := (hw1.core.closed x (i2.states x (hmono.states x hs)) hne).2
        rw [hfx, htip'] at hh
        omega
      · rw [anc_succ', hfx, htip', hp]
      · rcases Nat.lt_succ_iff_lt_or_eq.mp hk with hk | rfl
        · exact hfull k hk
        · rw [hfx, htip']
          exact i2.supp x hrx
    · rw [applyAll_error herr]
      refine ⟨h, Mono.refl m, nofun, fun _ => rfl, fun hall => ?_, 0, Nat.zero_le _, rfl, nofun⟩
      rcases hall x (List.mem_cons_self ..) with hx | hx
      · exact absurd hx hnot
      · rw [hbad] at hx; cases hx

/-- **`reorgTo`** towards a stored block `t`: the completely stored blocks above the fork point
`reorgPath` finds are reverted, then the blocks below `t` applied in order.  It never panics.  It
stops at a pruned block among those to revert (missing block) or at a block without supplement
whose body is invalid; wherever it stops, the blocks between old and new tip and their common
ancestor are completely stored.  And it succeeds whenever old tip and `t` have a common ancestor
such that the blocks above it are completely stored on the old tip's side and completely stored or
valid on `t`'s side (the path `reorgPath` finds is minimal, so it touches no other block). -/
theorem reorgTo_kept {m} (h : P m) {t : Nat} (ht : m.states t = true) :
    P (reorgTo U m t).1 ∧ Mono m (reorgTo U m t).1 ∧
    ((reorgTo U m t).2 = none → (reorgTo U m t).1.tip = t) ∧
    ((reorgTo U m t).2 = none ∨ (reorgTo U m t).2 = some .invalidBlock ∨
      ((reorgTo U m t).2 = some .missingBlock ∧ ∃ i ∈ m.best, m.recs i = some ⟨false, false⟩)) ∧
    (∃ c f, c ≤ (U m.tip).height ∧ f ≤ (U (reorgTo U m t).1.tip).height ∧
        anc U f (reorgTo U m t).1.tip = anc U c m.tip ∧
        (∀ k, k < c → m.recs (anc U k m.tip) = some ⟨true, true⟩) ∧
        (∀ k, k < f → (reorgTo U m t).1.recs (anc U k (reorgTo U m t).1.tip) = some ⟨true, true⟩)) ∧
    (∀ c f, c ≤ (U m.tip).height → f ≤ (U t).height → anc U c m.tip = anc U f t →
        (∀ k, k < c → m.recs (anc U k m.tip) = some ⟨true, true⟩) →
        (∀ k, k < f → m.recs (anc U k t) = some ⟨true, true⟩ ∨ (U (anc U k t)).bodyOk = true) →
        (reorgTo U m t).2 = none) := by
  have hw := K.weak h
  obtain ⟨na, nb, c, hna, hnb, -, hmeet, hleast, hcn, hfull, hrun⟩ := hw.reorgTo_eq ht
  have hct := Nat.le_trans hcn hna
  have h0 := K.drop c h hct hfull
  have htip0 := hw.tip_drop hct
  have mono0 := Mono.of_best m (m.best.drop c)
  rcases hrun with ⟨rfl, hred⟩ | ⟨hlt, hpr, hred⟩
  · obtain ⟨a1, a2, a3, a4, a5, f, hf, hfc, hff⟩ := applyAll_kept K _ _ h0 (hw.attach_drop ht hct hnb hmeet)
    rw [hred]
    refine ⟨a1, mono0.trans a2, fun he => ?_, ?_, ⟨c, f, hct, hf, hfc.trans htip0, hfull, hff⟩,
      fun c' f' hc' hf' hcf _ hs2 => a5 fun x hx => ?_⟩
    · rw [a3 he, getLastD_reverse_map_anc, htip0]
      split
      · next h0 => subst h0; exact hmeet
      · rfl
    · by_cases he : (applyAll U ((List.range nb).map (fun k => anc U k t)).reverse { m with best := m.best.drop c }).2 = none
      · exact .inl he
      · exact .inr (.inl (a4 he))
    · simp only [List.mem_reverse, List.mem_map, List.mem_range] at hx
      obtain ⟨k, hk, rfl⟩ := hx
      exact hs2 k (Nat.lt_of_lt_of_le hk (hleast c' f' hc' hf' hcf).2)
  · rw [hred]
    refine ⟨h0, mono0, nofun, .inr (.inr ⟨rfl, _, hw.anc_mem hct, hpr⟩),
      ⟨c, 0, hct, Nat.zero_le _, htip0, hfull, nofun⟩, fun c' f' hc' hf' hcf hs1 _ => ?_⟩
    have := hs1 c (Nat.lt_of_lt_of_le hlt (hleast c' f' hc' hf' hcf).1)
    rw [hpr] at this
    cases this

/-- **the rollback of a failed reorg cannot fail**: wherever `reorgTo U m cs` stopped, `reorgTo`
back to the old tip succeeds and restores the old best chain.  (The rollback's `reorgPath` is
minimal, so it reverts only freshly applied blocks and re-applies only blocks the failed attempt
had reverted, all of which are completely stored.) -/
theorem rollback_kept {m} (h : P m) {cs : Nat} (hcs : m.states cs = true) :
    (reorgTo U (reorgTo U m cs).1 m.tip).2 = none ∧
    P (reorgTo U (reorgTo U m cs).1 m.tip).1 ∧
    Mono m (reorgTo U (reorgTo U m cs).1 m.tip).1 ∧
    (reorgTo U (reorgTo U m cs).1 m.tip).1.best = m.best := by
  have hw := K.weak h
  obtain ⟨i1, mono1, _, _, ⟨c, f, hc, hf, hcf, hfc, hff⟩, _⟩ := reorgTo_kept K h hcs
  generalize (reorgTo U m cs).1 = m1 at i1 mono1 hf hcf hff ⊢
  obtain ⟨i2, mono2, s1, _, _, s6⟩ := reorgTo_kept K i1 (mono1.states _ hw.tip_state)
  have hnone := s6 f c hf hc hcf hff fun k hk => .inl (mono1.supp _ (hfc k hk))
  refine ⟨hnone, i2, mono1.trans mono2, Chain.unique (K.weak i2).chain hw.chain ?_⟩
  rw [(K.weak i2).head?_best, hw.head?_best, s1 hnone]

/-- a failed reorg is always rolled back -/
theorem maybeReorg_failed {m cs} (h : P m) (hcs : m.states cs = true)
    (hh : heavier U cs m.tip = true) (hr : (reorgTo U m cs).2 ≠ none) :
    maybeReorg U m cs = ((reorgTo U (reorgTo U m cs).1 m.tip).1, some .reorgFailed) := by
  obtain ⟨_, _, _, r4, _⟩ := reorgTo_kept K h hcs
  obtain ⟨b1, _⟩ := rollback_kept K h hcs
  unfold maybeReorg
  rw [if_pos hh]
  generalize reorgTo U m cs = r at hr r4 b1 ⊢
  obtain ⟨m1, e1⟩ := r
  generalize hr2 : reorgTo U m1 m.tip = r2 at b1 ⊢
  obtain ⟨m2, e2⟩ := r2
  cases b1
  rcases r4 with r4 | r4 | ⟨r4, _⟩
  · exact absurd r4 hr
  · cases r4
    simp only [hr2]
  · cases r4
    simp only [hr2]

/-- the shared tail of `AddBlocks` / `AddValidatedV2Blocks`: it never panics, and a failed reorg
is always rolled back to exactly the old best chain -/
theorem maybeReorg_kept {m} (h : P m) {cs : Nat} (hcs : m.states cs = true) :
    P (maybeReorg U m cs).1 ∧
    ((∀ i, m.states i = true → (maybeReorg U m cs).1.states i = true) ∧
     (∀ i, m.recs i = some ⟨true, true⟩ → (maybeReorg U m cs).1.recs i = some ⟨true, true⟩)) ∧
    (((maybeReorg U m cs).2 = none ∧
        ((heavier U cs m.tip = true ∧ (maybeReorg U m cs).1.tip = cs ∧
            (maybeReorg U m cs).1.notified = m.notified + 1) ∨
         (heavier U cs m.tip = false ∧ (maybeReorg U m cs).1 = m))) ∨
     ((maybeReorg U m cs).2 = some .reorgFailed ∧ heavier U cs m.tip = true ∧
        (maybeReorg U m cs).1.best = m.best ∧ (maybeReorg U m cs).1.notified = m.notified)) := by
  cases hh : heavier U cs m.tip with
  | false =>
    rw [maybeReorg_light hh]
    exact ⟨h, ⟨fun _ x => x, fun _ x => x⟩, .inl ⟨rfl, .inr ⟨rfl, rfl⟩⟩⟩
  | true =>
    obtain ⟨i1, mono1, r1, _⟩ := reorgTo_kept K h hcs
    by_cases hr : (reorgTo U m cs).2 = none
    · rw [maybeReorg_ok hh hr]
      exact ⟨K.notify _ i1, ⟨mono1.states, mono1.supp⟩,
        .inl ⟨rfl, .inl ⟨rfl, r1 hr, congrArg (· + 1) mono1.notified⟩⟩⟩
    · obtain ⟨_, b2, b3, b4⟩ := rollback_kept K h hcs
      rw [maybeReorg_failed K h hcs hh hr]
      exact ⟨b2, ⟨b3.states, b3.supp⟩, .inr ⟨rfl, rfl, b4, b3.notified⟩⟩

/-- what the tail leaves of a manager `m` whose best chain and notifications the loop did not touch -/
theorem maybeReorg_outcome {m m1 : Mgr} (h1 : P m1) (hb : m1.best = m.best) (hn : m1.notified = m.notified)
    {cs : Nat} (hcs : m1.states cs = true) :
    AddOutcome U m (maybeReorg U m1 cs).1 (maybeReorg U m1 cs).2 ((maybeReorg U m1 cs).2 = some .reorgFailed) := by
  have htip : m1.tip = m.tip := congrArg (·.headD 0) hb
  unfold AddOutcome
  rw [← htip, ← hb, ← hn]
  rcases (maybeReorg_kept K h1 hcs).2.2 with ⟨ke, ⟨kh, kt, kn⟩ | ⟨_, km⟩⟩ | ⟨ke, _, kb, kn⟩
  · exact .inl ⟨ke, .inr ⟨by rw [kt]; exact kh, kn⟩⟩
  · exact .inl ⟨ke, .inl ⟨by rw [km], by rw [km]⟩⟩
  · exact .inr ⟨ke, kb, kn⟩

/-- the per-block loop of `AddBlocks`: stores header-valid blocks, never touches the best chain -/
theorem addLoop_kept (hgt : ∀ b, b ≠ 0 → (U b).hdrOk = true → (U b).height = (U (par U b)).height + 1) :
    ∀ (batch : List Nat) (m : Mgr) (cs : Nat), P m → m.states cs = true →
    P (addBlocks.go U batch m cs).1 ∧
    (addBlocks.go U batch m cs).1.best = m.best ∧
    (addBlocks.go U batch m cs).1.notified = m.notified ∧
    ((∀ i, m.states i = true → (addBlocks.go U batch m cs).1.states i = true) ∧
     (∀ i, m.recs i = some ⟨true, true⟩ → (addBlocks.go U batch m cs).1.recs i = some ⟨true, true⟩)) ∧
    (addBlocks.go U batch m cs).1.states (addBlocks.go U batch m cs).2.2 = true ∧
    ((addBlocks.go U batch m cs).2.1 = none ∨ (addBlocks.go U batch m cs).2.1 = some .missingParent ∨
     (addBlocks.go U batch m cs).2.1 = some .future ∨ (addBlocks.go U batch m cs).2.1 = some .invalidHeader) := by
  intro batch
  induction batch with
  | nil => exact fun m cs h hcs => ⟨h, rfl, rfl, ⟨fun _ x => x, fun _ x => x⟩, hcs, .inl rfl⟩
  | cons b bs ih =>
    intro m cs h hcs
    have hw := K.weak h
    by_cases hk : m.known b
    · rw [addLoop_known hk]
      exact ih m b h (hw.known_state hk)
    · cases he : addCheck U m b cs with
      | some e =>
        rw [addLoop_new hk, he]
        have hr := addCheck_range U m b cs
        rw [he] at hr
        exact ⟨h, rfl, rfl, ⟨fun _ x => x, fun _ x => x⟩, hcs, hr⟩
      | none =>
        obtain ⟨hpar, hok, hfut⟩ := addCheck_none he hcs
        have hb0 : b ≠ 0 := fun e => hk (hw.known_of_mem (e ▸ hw.chain.zero_mem))
        rw [addLoop_new hk, he]
        obtain ⟨j1, j2, j3, j4, j5, j6⟩ := ih _ b (K.store h hk hpar (hgt b hb0 hok) hok hfut) (upd_same ..)
        refine ⟨j1, j2, j3, ⟨fun i hi => j4.1 i (upd_true_of_true b hi), fun i hi => j4.2 i ?_⟩, j5, j6⟩
        have hib : i ≠ b := fun e => hk (e ▸ Mgr.known_of_stored hi)
        exact (upd_other _ _ _ _ hib).trans hi

/-- **`AddBlocks`**: `P` is preserved for any batch; it never panics and a failed reorg is always
rolled back; on any error the best chain and the notification count are as before; the tip moves
exactly when the submitted chain is sufficiently heavier, and then one notification is delivered. -/
theorem addBlocks_kept (hgt : ∀ b, b ≠ 0 → (U b).hdrOk = true → (U b).height = (U (par U b)).height + 1)
    {m : Mgr} (h : P m) (batch : List Nat) :
    P (addBlocks U m batch).1 ∧
    ((∀ i, m.states i = true → (addBlocks U m batch).1.states i = true) ∧
     (∀ i, m.recs i = some ⟨true, true⟩ → (addBlocks U m batch).1.recs i = some ⟨true, true⟩)) ∧
    AddOutcome U m (addBlocks U m batch).1 (addBlocks U m batch).2
      ((addBlocks U m batch).2 = some .missingParent ∨ (addBlocks U m batch).2 = some .future ∨
        (addBlocks U m batch).2 = some .invalidHeader ∨ (addBlocks U m batch).2 = some .reorgFailed) := by
  cases batch with
  | nil => exact ⟨h, ⟨fun _ x => x, fun _ x => x⟩, .inl ⟨rfl, .inl ⟨rfl, rfl⟩⟩⟩
  | cons b bs =>
    simp only [addBlocks]
    obtain ⟨j1, j2, j3, j4, j5, j6⟩ := addLoop_kept K hgt (b :: bs) m m.tip h (K.weak h).tip_state
    rcases hg : addBlocks.go U (b :: bs) m m.tip with ⟨m1, e, cs⟩
    rw [hg] at j1 j2 j3 j4 j5 j6
    cases e with
    | some err =>
      refine ⟨j1, j4, .inr ⟨?_, j2, j3⟩⟩
      rcases j6 with j6 | j6 | j6 | j6
      · cases j6
      · exact .inl j6
      · exact .inr (.inl j6)
      · exact .inr (.inr (.inl j6))
    | none =>
      obtain ⟨k1, k2, _⟩ := maybeReorg_kept K j1 j5
      refine ⟨k1, ⟨fun i hi => k2.1 i (j4.1 i hi), fun i hi => k2.2 i (j4.2 i hi)⟩, ?_⟩
      exact (maybeReorg_outcome K j1 j2 j3 j5).imp_errs fun ke => .inr (.inr (.inr ke))

end Kept

/-! ### the unpruned node -/

/-- Writing the record `⟨true, sp⟩` and a state for `b`, whose parent has a state, keeps the
invariant, provided a supplement is written only for a valid body on an applied parent, and is not
taken away. -/
theorem Inv.store {U m} (h : Inv U m) {b : Nat} {sp : Bool}
    (hb0 : b ≠ 0) (hh : (U b).height = (U (par U b)).height + 1) (hpar : m.states (par U b) = true)
    (hhdr : (U b).hdrOk = true ∧ (U b).future = false)
    (hsp : sp = true → (U b).bodyOk = true ∧ m.recs (par U b) = some ⟨true, true⟩)
    (hnsp : sp = false → m.recs b ≠ some ⟨true, true⟩) :
    Inv U { m with states := upd m.states b true, recs := upd m.recs b (some ⟨true, sp⟩) } := by
  obtain ⟨hc, hrs, hrec⟩ := store_base h.s.core h.s.recstate hpar (fun _ => hh) hnsp
  have hrec' : ∀ j r, upd m.recs b (some ⟨true, sp⟩) j = some r → j ≠ b → m.recs j = some r := by
    intro j r hj e
    rwa [upd_other _ _ _ _ e] at hj
  refine ⟨⟨h.s.h0, ⟨hrec 0 h.s.gen.1, upd_true_of_true b h.s.gen.2⟩, hc.closed, hrs, hc.staterec,
    fun j hj0 hj => ?_, fun j hj0 hj => ?_, fun j hj0 hj => hrec _ ?_⟩, h.chain, fun i hi => hrec i (h.bestsupp i hi)⟩
  all_goals dsimp only at hj
  · by_cases e : j = b
    · subst e
      rw [upd_same] at hj
      exact (hsp (congrArg Rec.supp (Option.some.inj hj))).1
    · exact h.s.valid j hj0 (hrec' j _ hj e)
  · by_cases e : j = b
    · exact e ▸ hhdr
    · rw [upd_other _ _ _ _ e] at hj
      exact h.s.validHdr j hj0 hj
  · by_cases e : j = b
    · subst e
      rw [upd_same] at hj
      exact (hsp (congrArg Rec.supp (Option.some.inj hj))).2
    · exact h.s.suppclosed j hj0 (hrec' j _ hj e)

theorem Inv.push {U m} (h : Inv U m) {i : Nat} (hp : par U i = m.tip) (hne : i ≠ 0)
    (hr : m.recs i = some ⟨true, true⟩) : Inv U { m with best := i :: m.best } :=
  h.with_best _ (h.chain.push hne (hp ▸ h.head?_best)) fun j hj => by
    rcases List.mem_cons.mp hj with rfl | hj
    · exact hr
    · exact h.bestsupp j hj

/-- what the harness guarantees about declared blocks: a header-valid block is not genesis and
sits one above its parent -/
structure WFU (U : Nat → Blk) : Prop where
  h0 : (U 0).height = 0
  hdr : ∀ b, (U b).hdrOk = true → b ≠ 0 ∧ (U b).height = (U (par U b)).height + 1

theorem WFU.hgt {U} (hU : WFU U) (b : Nat) (_ : b ≠ 0) (hok : (U b).hdrOk = true) :
    (U b).height = (U (par U b)).height + 1 := (hU.hdr b hok).2

theorem inv_kept (U : Nat → Blk) : Kept U (Inv U) where
  weak := Inv.toWInv
  sidebody h hr _ := (h.s.recstate _ _ hr).1
  notify n h := h.with_best n h.chain h.bestsupp
  drop c h hc _ := h.with_best _ (h.toWInv.drop hc).chain fun i hi => h.bestsupp i (List.mem_of_mem_drop hi)
  push h hp hne hr := h.push hp hne hr
  validate {m i} h hp hne hr hok := by
    have hs := (h.s.recstate i _ hr).2
    have hst := h.store (sp := true) hne (h.s.closed i hs hne).2 (h.s.closed i hs hne).1 (h.s.validHdr i hne hs)
      (fun _ => ⟨hok, hp ▸ h.bestsupp _ h.tip_mem⟩) nofun
    exact hst.push hp hne (upd_same ..)
  store {m b} h hk hpar hh hok hfut :=
    h.store (sp := false) (fun e => hk (h.toWInv.known_of_mem (e ▸ h.chain.zero_mem))) hh hpar ⟨hok, hfut⟩ nofun
      fun _ hr => hk (Mgr.known_of_stored hr)

/-- `reorgTo` towards a stored block: after reverting to the first common ancestor it applies the
blocks below the target in order, and stops only at a block without a supplement whose body is
invalid -/
theorem reorgTo_run {U m} (h : Inv U m) {t : Nat} (ht : m.states t = true) :
    Inv U (reorgTo U m t).1 ∧ Mono m (reorgTo U m t).1 ∧
    ((reorgTo U m t).2 = none → (reorgTo U m t).1.tip = t) ∧
    ((reorgTo U m t).2 ≠ none → (reorgTo U m t).2 = some .invalidBlock) ∧
    ((∀ k, k < (U t).height → m.recs (anc U k t) = some ⟨true, true⟩ ∨ (U (anc U k t)).bodyOk = true) →
      (reorgTo U m t).2 = none) := by
  obtain ⟨r1, r2, r3, r4, -, r6⟩ := reorgTo_kept (inv_kept U) h ht
  refine ⟨r1, r2, r3, fun hne => ?_, r6 _ _ (Nat.le_refl _) (Nat.le_refl _) ?_ fun k hk => ?_⟩
  · rcases r4 with r4 | r4 | ⟨_, i, hi, hr⟩
    · exact absurd r4 hne
    · exact r4
    · cases (h.bestsupp i hi).symm.trans hr
  · rw [h.s.core.anc_height h.tip_state, h.s.core.anc_height ht]
  · exact h.bestsupp _ (h.toWInv.anc_mem (Nat.le_of_lt hk))

/-- **`reorgTo`**: towards any stored block it either reaches it or stops at an invalid block;
it never panics, never reports a missing block, never loses a record; and if every block on the
way already carries a supplement it cannot fail. -/
theorem reorgTo_spec {U m} (h : Inv U m) {t : Nat} (ht : m.states t = true) :
    Inv U (reorgTo U m t).1 ∧ Mono m (reorgTo U m t).1 ∧
    ((reorgTo U m t).2 = none → (reorgTo U m t).1.tip = t) ∧
    ((reorgTo U m t).2 ≠ none → (reorgTo U m t).2 = some .invalidBlock) ∧
    ((∀ k, k ≤ (U t).height → m.recs (anc U k t) = some ⟨true, true⟩) → (reorgTo U m t).2 = none) :=
  have ⟨r1, r2, r3, r4, r5⟩ := reorgTo_run h ht
  ⟨r1, r2, r3, r4, fun hall => r5 fun k hk => .inl (hall k (Nat.le_of_lt hk))⟩

/-- rolling back from ANY `m1` that lost nothing of `m` and satisfies `Inv` (`rollback_kept` speaks
only of `(reorgTo U m cs).1`): the old best chain still carries its supplements, so `reorgTo` back
cannot fail and restores `best` -/
theorem rollback_restores {U m m1} (h : Inv U m) (i1 : Inv U m1) (mono1 : Mono m m1) :
    (reorgTo U m1 m.tip).2 = none ∧ (reorgTo U m1 m.tip).1.best = m.best ∧
    Inv U (reorgTo U m1 m.tip).1 ∧ Mono m1 (reorgTo U m1 m.tip).1 := by
  obtain ⟨i2, mono2, s1, _, s3⟩ := reorgTo_run i1 (mono1.states _ h.tip_state)
  have hnone : (reorgTo U m1 m.tip).2 = none :=
    s3 fun k hk => .inl (mono1.supp _ (h.bestsupp _ (h.toWInv.anc_mem (Nat.le_of_lt hk))))
  exact ⟨hnone, i2.best_eq_of_tip h (s1 hnone), i2, mono2⟩

theorem maybeReorg_spec {U m} (h : Inv U m) {cs : Nat} (hcs : m.states cs = true) :
    Inv U (maybeReorg U m cs).1 ∧
    ((∀ i, m.states i = true → (maybeReorg U m cs).1.states i = true) ∧
     (∀ i, m.recs i = some ⟨true, true⟩ → (maybeReorg U m cs).1.recs i = some ⟨true, true⟩)) ∧
    (((maybeReorg U m cs).2 = none ∧
        ((heavier U cs m.tip = true ∧ (maybeReorg U m cs).1.tip = cs ∧
            (maybeReorg U m cs).1.notified = m.notified + 1) ∨
         (heavier U cs m.tip = false ∧ (maybeReorg U m cs).1 = m))) ∨
     ((maybeReorg U m cs).2 = some .reorgFailed ∧ heavier U cs m.tip = true ∧
        (maybeReorg U m cs).1.best = m.best ∧ (maybeReorg U m cs).1.notified = m.notified)) :=
  maybeReorg_kept (inv_kept U) h hcs

/-- the store right after `NewDBStore` -/
theorem Mgr.init_inv {U : Nat → Blk} (h0 : (U 0).height = 0) : Inv U Mgr.init := by
  refine ⟨⟨h0, by simp [Mgr.init], ?_, ?_, ?_, ?_, ?_, ?_⟩, Chain.gen, ?_⟩
  · intro i hi hne; simp [Mgr.init, hne] at hi
  · intro i r hr
    by_cases e : i = 0
    · subst e; simp [Mgr.init] at hr ⊢; subst hr; rfl
    · simp [Mgr.init, e] at hr
  · intro i hi; simp [Mgr.init] at hi ⊢; simp [hi]
  · intro i hne hr; simp [Mgr.init, hne] at hr
  · intro i hne hs; simp [Mgr.init, hne] at hs
  · intro i hne hr; simp [Mgr.init, hne] at hr
  · intro i hi; simp [Mgr.init] at hi ⊢; simp [hi]

theorem inv_init {U} (hU : WFU U) : Inv U Mgr.init := Mgr.init_inv hU.h0

theorem addLoop_spec {U} (hU : WFU U) : ∀ (batch : List Nat) (m : Mgr) (cs : Nat), Inv U m → m.states cs = true →
    Inv U (addBlocks.go U batch m cs).1 ∧
    (addBlocks.go U batch m cs).1.best = m.best ∧
    (addBlocks.go U batch m cs).1.notified = m.notified ∧
    ((∀ i, m.states i = true → (addBlocks.go U batch m cs).1.states i = true) ∧
     (∀ i, m.recs i = some ⟨true, true⟩ → (addBlocks.go U batch m cs).1.recs i = some ⟨true, true⟩)) ∧
    (addBlocks.go U batch m cs).1.states (addBlocks.go U batch m cs).2.2 = true ∧
    ((addBlocks.go U batch m cs).2.1 = none ∨ (addBlocks.go U batch m cs).2.1 = some .missingParent ∨
     (addBlocks.go U batch m cs).2.1 = some .future ∨ (addBlocks.go U batch m cs).2.1 = some .invalidHeader) :=
  addLoop_kept (inv_kept U) hU.hgt

/-- **`AddBlocks`**: the invariant is preserved for any batch; it never panics and a failed
reorg is always rolled back; on any error the best chain and the notification count are as
before; the tip moves exactly when the submitted chain is sufficiently heavier, and then one
notification is delivered. -/
theorem addBlocks_spec {U} (hU : WFU U) {m : Mgr} (h : Inv U m) (batch : List Nat) :
    Inv U (addBlocks U m batch).1 ∧
    ((∀ i, m.states i = true → (addBlocks U m batch).1.states i = true) ∧
     (∀ i, m.recs i = some ⟨true, true⟩ → (addBlocks U m batch).1.recs i = some ⟨true, true⟩)) ∧
    (((addBlocks U m batch).2 = none ∧
        (((addBlocks U m batch).1.best = m.best ∧ (addBlocks U m batch).1.notified = m.notified) ∨
         (heavier U (addBlocks U m batch).1.tip m.tip = true ∧
            (addBlocks U m batch).1.notified = m.notified + 1))) ∨
     (((addBlocks U m batch).2 = some .missingParent ∨ (addBlocks U m batch).2 = some .future ∨
        (addBlocks U m batch).2 = some .invalidHeader ∨ (addBlocks U m batch).2 = some .reorgFailed) ∧
        (addBlocks U m batch).1.best = m.best ∧ (addBlocks U m batch).1.notified = m.notified)) :=
  addBlocks_kept (inv_kept U) hU.hgt h batch

/-! ### `AddValidatedV2Blocks` -/

/-- consecutive blocks of a batch are parent-linked, starting above `p` -/
def LinkedFrom (U : Nat → Blk) : Nat → List Nat → Prop
  | _, [] => True
  | p, b :: bs => par U b = p ∧ LinkedFrom U b bs

/-- what the syncer guarantees about a batch it hands to `AddValidatedV2Blocks` (C11's gate): a
parent-linked run of v2 blocks that passed `ValidateOrphan`/`ValidateBlock` on top of a block this
manager has applied -/
structure PreValidated (U : Nat → Blk) (m : Mgr) (batch : List Nat) : Prop where
  ok : ∀ b ∈ batch, (U b).hdrOk = true ∧ (U b).bodyOk = true ∧ (U b).future = false ∧ (U b).v2 = true
  linked : ∀ b0 rest, batch = b0 :: rest → LinkedFrom U (par U b0) batch ∧ m.recs (par U b0) = some ⟨true, true⟩

theorem addV2Loop_spec {U} (hU : WFU U) : ∀ (batch : List Nat) (m : Mgr) (p : Nat), Inv U m →
    m.recs p = some ⟨true, true⟩ → LinkedFrom U p batch →
    (∀ b ∈ batch, (U b).hdrOk = true ∧ (U b).bodyOk = true ∧ (U b).future = false ∧ (U b).v2 = true) →
    Inv U (addValidatedV2.go U batch m).1 ∧ (addValidatedV2.go U batch m).2 = none ∧
    (addValidatedV2.go U batch m).1.best = m.best ∧
    (addValidatedV2.go U batch m).1.notified = m.notified ∧
    ((∀ i, m.states i = true → (addValidatedV2.go U batch m).1.states i = true) ∧
     (∀ i, m.recs i = some ⟨true, true⟩ → (addValidatedV2.go U batch m).1.recs i = some ⟨true, true⟩)) ∧
    (addValidatedV2.go U batch m).1.recs (batch.getLastD p) = some ⟨true, true⟩ := by
  intro batch
  induction batch with
  | nil => intro m p h hp _ _; simp [addValidatedV2.go, h, hp]
  | cons b bs ih =>
    intro m p h hp ⟨hl1, hl2⟩ hall
    obtain ⟨o1, o2, o3, o4⟩ := hall b (by simp)
    have hpar : m.recs (par U b) = some ⟨true, true⟩ := hl1 ▸ hp
    have hinv := h.store (sp := true) (hU.hdr b o1).1 (hU.hdr b o1).2 (h.s.recstate _ _ hpar).2 ⟨o1, o3⟩
      (fun _ => ⟨o2, hpar⟩) nofun
    have hmono := mono_store m b m.best
    obtain ⟨j1, j2, j3, j4, j5, j6⟩ := ih _ b hinv (upd_same ..) hl2 (fun x hx => hall x (List.mem_cons_of_mem _ hx))
    rw [addValidatedV2.go]
    simp only [o4, Bool.not_true, Bool.false_eq_true, if_false]
    refine ⟨j1, j2, j3, j4, ⟨fun i hi => j5.1 i (hmono.states i hi), fun i hi => j5.2 i (hmono.supp i hi)⟩, ?_⟩
    rwa [List.getLastD_cons]

end Verif.Chain
