/-
`CacheDB` over ANY inner backend that refines `Spec` itself refines `Spec` (`cachedb_step_refines`,
`refines_cache`).  The inner backend is only seen through the one-step simulation `Refines B Ri`.
What `Flush` sends to it is computed from which writes the list contains (`mem_flushOps`,
`foldl_actMap_flushOps`); the overlay's buckets are related to the inner working image by the same
`BucketR` that relates a `MemDB` bucket to its committed map (`CacheBucket`, `RcW_iff`).
-/
import Verif.Lemmas.KV

namespace Verif.KV
open Std

/-- `B` refines `Spec` through the relation `Ri`: from related states every operation
gives the same output and related successor states. -/
structure Refines {σ} (B : Backend σ) (Ri : σ → Spec → Prop) : Prop where
  step : ∀ x t, Ri x t → ∀ op, (B.step x op).2 = (t.step op).2 ∧ Ri (B.step x op).1 (t.step op).1

theorem refines_mem : Refines memBackend R := ⟨fun d s h op => memdb_step_refines d s h op⟩

theorem refines_spec : Refines specBackend Eq := ⟨by intro x t h op; subst h; exact ⟨rfl, rfl⟩⟩

theorem runInner_refines {σ} {B : Backend σ} {Ri : σ → Spec → Prop} (hB : Refines B Ri)
    (ops : List Op) : ∀ x t, Ri x t → Ri (runInner B x ops) (runInner specBackend t ops) := by
  induction ops with
  | nil => intro x t h; exact h
  | cons op ops ih =>
    intro x t h
    simp only [runInner, List.foldl_cons]
    exact ih _ _ (hB.step x t h op).2

theorem innerHas_eq {σ} {B : Backend σ} {Ri : σ → Spec → Prop} (hB : Refines B Ri)
    (x : σ) (t : Spec) (h : Ri x t) (b : Nat) : innerHas B x b = (t.working b).isSome := by
  have := (hB.step x t h (.get b 0)).1
  simp only [innerHas, this, Spec.step]
  cases t.working b <;> rfl

theorem innerGet_eq {σ} {B : Backend σ} {Ri : σ → Spec → Prop} (hB : Refines B Ri)
    (x : σ) (t : Spec) (h : Ri x t) (b k : Nat) :
    innerGet B x b k = (t.working b).bind (·[k]?) := by
  have := (hB.step x t h (.get b k)).1
  simp only [innerGet, this, Spec.step]
  cases t.working b <;> rfl

theorem innerIter_eq {σ} {B : Backend σ} {Ri : σ → Spec → Prop} (hB : Refines B Ri)
    (x : σ) (t : Spec) (h : Ri x t) (b : Nat) :
    innerIter B x b = (t.working b).getD ∅ := by
  have := (hB.step x t h (.iter b)).1
  simp only [innerIter, this, Spec.step]
  cases t.working b <;> rfl

/-- what one operation does to the value stored under key `k` of bucket `b` -/
def Op.actOn (b k : Nat) : Op → Option Nat → Option Nat
  | .put b' k' v, x => if b' = b ∧ k' = k then some v else x
  | .del b' k', x => if b' = b ∧ k' = k then none else x
  | _, x => x

/-- what a write does to the map stored in bucket `b` -/
def Op.actMap (b : Nat) : Op → KMap → KMap
  | .put b' k v => if b' = b then (·.insert k v) else id
  | .del b' k => if b' = b then (·.erase k) else id
  | _ => id

def Op.isWrite : Op → Bool
  | .put .. | .del .. => true
  | _ => false

theorem getElem?_actMap (b k : Nat) (op : Op) (m : KMap) :
    (op.actMap b m)[k]? = op.actOn b k m[k]? := by
  cases op with
  | put b' k' v =>
    by_cases hb : b' = b <;>
      simp [Op.actMap, Op.actOn, hb, ExtTreeMap.getElem?_insert]
  | del b' k' =>
    by_cases hb : b' = b <;>
      simp [Op.actMap, Op.actOn, hb, ExtTreeMap.getElem?_erase]
  | _ => rfl

theorem upd_map_apply {α} (f : Nat → Option α) (b0 : Nat) (g : α → α) (b : Nat) :
    upd f b0 ((f b0).map g) b = (f b).map (if b0 = b then g else id) := by
  by_cases hb : b0 = b
  · subst hb
    rw [upd_same, if_pos rfl]
  · rw [upd_other _ _ _ _ (Ne.symm hb), if_neg hb, Option.map_id, id]

theorem spec_put (t : Spec) (b k v : Nat) :
    (t.step (.put b k v)).1 = { t with working := upd t.working b ((t.working b).map (·.insert k v)) } := by
  rw [upd_map]
  simp only [Spec.step]
  cases t.working b <;> rfl

theorem spec_del (t : Spec) (b k : Nat) :
    (t.step (.del b k)).1 = { t with working := upd t.working b ((t.working b).map (·.erase k)) } := by
  rw [upd_map]
  simp only [Spec.step]
  cases t.working b <;> rfl

theorem spec_step_write (t : Spec) (op : Op) (hw : op.isWrite = true) :
    (t.step op).1.durable = t.durable ∧
    ∀ b, (t.step op).1.working b = (t.working b).map (op.actMap b) := by
  cases op with
  | put b0 k v =>
    rw [spec_put]
    exact ⟨rfl, upd_map_apply _ _ _⟩
  | del b0 k =>
    rw [spec_del]
    exact ⟨rfl, upd_map_apply _ _ _⟩
  | _ => cases hw

theorem runInner_spec_writes (ops : List Op) (hw : ∀ op ∈ ops, op.isWrite = true) (t : Spec) :
    (runInner specBackend t ops).durable = t.durable ∧
    ∀ b, (runInner specBackend t ops).working b =
      (t.working b).map fun m => ops.foldl (fun m op => op.actMap b m) m := by
  induction ops generalizing t with
  | nil => exact ⟨rfl, fun b => (congrFun Option.map_id _).symm⟩
  | cons op ops ih =>
    obtain ⟨hd, hwk⟩ := spec_step_write t op (hw op List.mem_cons_self)
    obtain ⟨ihd, ihw⟩ := ih (fun o ho => hw o (List.mem_cons_of_mem _ ho)) (t.step op).1
    refine ⟨ihd.trans hd, fun b => ?_⟩
    exact (ihw b).trans (by rw [hwk b, Option.map_map]; rfl)

/-! Which puts and deletes `Flush` sends is all that matters, not their order: no key of a bucket
is both put and deleted (`db.go:290-292`), and all puts of one key carry the same value. -/

theorem getElem?_foldl_actMap {b k : Nat} {y : Option Nat} {ops : List Op}
    (hall : ∀ op ∈ ops, ∀ x, op.actOn b k x = x ∨ op.actOn b k x = y) {tm : KMap} (h : tm[k]? = y) :
    (ops.foldl (fun tm op => op.actMap b tm) tm)[k]? = y := by
  induction ops generalizing tm with
  | nil => exact h
  | cons op ops ih =>
    refine ih (fun o ho => hall o (List.mem_cons_of_mem _ ho)) ?_
    rw [getElem?_actMap]
    rcases hall op List.mem_cons_self tm[k]? with h' | h'
    · exact h'.trans h
    · exact h'

theorem getElem?_foldl_actMap_of_mem {b k : Nat} {y : Option Nat} {ops : List Op}
    (hall : ∀ op ∈ ops, ∀ x, op.actOn b k x = x ∨ op.actOn b k x = y) {op : Op} (hop : op ∈ ops)
    (hy : ∀ x, op.actOn b k x = y) (tm : KMap) :
    (ops.foldl (fun tm op => op.actMap b tm) tm)[k]? = y := by
  obtain ⟨l₁, l₂, rfl⟩ := List.append_of_mem hop
  rw [List.foldl_append, List.foldl_cons]
  refine getElem?_foldl_actMap (fun o ho => hall o ?_) ((getElem?_actMap ..).trans (hy _))
  exact List.mem_append_right _ (List.mem_cons_of_mem _ ho)

theorem mem_flushOps {m : MemDB} {bs : List Nat} {op : Op} :
    op ∈ CacheDB.flushOps m bs ↔
      (∃ b ∈ bs, ∃ k v, ((m.puts b).getD ∅)[k]? = some v ∧ ((m.dels b).getD ∅).contains k = false ∧
        op = .put b k v) ∨
      ∃ b ∈ bs, ∃ k, k ∈ (m.dels b).getD ∅ ∧ op = .del b k := by
  simp only [CacheDB.flushOps, List.mem_append, List.mem_flatMap, List.mem_filterMap, List.mem_map,
    Prod.exists, ExtTreeMap.mem_toList_iff_getElem?_eq_some, ExtTreeMap.mem_iff_isSome_getElem?,
    Option.isSome_iff_exists, Option.ite_none_left_eq_some, Option.some.injEq, Bool.not_eq_true,
    exists_and_right, eq_comm (a := op)]

theorem flushOps_isWrite (m : MemDB) (bs : List Nat) :
    ∀ op ∈ CacheDB.flushOps m bs, op.isWrite = true := by
  intro op hop
  rcases mem_flushOps.mp hop with ⟨_, _, _, _, _, _, rfl⟩ | ⟨_, _, _, _, rfl⟩ <;> rfl

theorem isSome_of_mem_getD {β} {m : Option (ExtTreeMap Nat β)} {k : Nat} (h : k ∈ m.getD ∅) :
    m.isSome = true := by
  cases m with
  | none => exact absurd h ExtTreeMap.not_mem_empty
  | some _ => rfl

theorem actOn_put_overlay (tm P : KMap) (D : KSet) (b k v : Nat) (x : Option Nat)
    (hv : P[k]? = some v) (hd : D.contains k = false) :
    (Op.put b k v).actOn b k x = (overlay tm P D)[k]? := by
  rw [getElem?_overlay, hv, hd]
  exact if_pos ⟨rfl, rfl⟩

theorem actOn_del_overlay (tm P : KMap) (D : KSet) (b k : Nat) (x : Option Nat)
    (hd : k ∈ D) (hp : ¬ k ∈ P) : (Op.del b k).actOn b k x = (overlay tm P D)[k]? := by
  rw [getElem?_overlay, ExtTreeMap.contains_iff_mem.mpr hd, ExtTreeMap.getElem?_eq_none hp]
  exact if_pos ⟨rfl, rfl⟩

/-- `bs` may be any list of bucket names (any order, duplicates allowed) that contains `b` if it has
pending maps -/
theorem foldl_actMap_flushOps (m : MemDB) (bs : List Nat) (b : Nat) (hn : m.has b = true → b ∈ bs)
    (hdisj : ∀ k, k ∈ (m.puts b).getD ∅ → k ∈ (m.dels b).getD ∅ → False) (tm : KMap) :
    (CacheDB.flushOps m bs).foldl (fun tm op => op.actMap b tm) tm =
      overlay tm ((m.puts b).getD ∅) ((m.dels b).getD ∅) := by
  apply ExtTreeMap.ext_getElem?
  intro k
  -- whatever is written under `(b, k)` is the value the overlay shows
  have hall : ∀ op ∈ CacheDB.flushOps m bs, ∀ x, op.actOn b k x = x ∨ op.actOn b k x =
      (overlay tm ((m.puts b).getD ∅) ((m.dels b).getD ∅))[k]? := by
    intro op hop x
    rcases mem_flushOps.mp hop with ⟨b', _, k', v, hv, hd, rfl⟩ | ⟨b', _, k', hd, rfl⟩
    · by_cases e : b' = b ∧ k' = k
      · obtain ⟨rfl, rfl⟩ := e
        exact .inr (actOn_put_overlay _ _ _ _ _ _ _ hv hd)
      · exact .inl (if_neg e)
    · by_cases e : b' = b ∧ k' = k
      · obtain ⟨rfl, rfl⟩ := e
        exact .inr (actOn_del_overlay _ _ _ _ _ _ hd fun hp => hdisj _ hp hd)
      · exact .inl (if_neg e)
  by_cases hd : k ∈ (m.dels b).getD ∅
  · have hb := hn (by simp [MemDB.has, isSome_of_mem_getD hd])
    exact getElem?_foldl_actMap_of_mem hall (mem_flushOps.mpr (.inr ⟨b, hb, k, hd, rfl⟩))
      (fun _ => actOn_del_overlay _ _ _ _ _ _ hd fun hp => hdisj _ hp hd) tm
  · have hd' := Bool.eq_false_iff.mpr fun h => hd (ExtTreeMap.contains_iff_mem.mp h)
    cases hp : ((m.puts b).getD ∅)[k]? with
    | some v =>
      have hb := hn (by
        simp [MemDB.has, isSome_of_mem_getD (ExtTreeMap.mem_iff_isSome_getElem?.mpr (by rw [hp]; rfl))])
      exact getElem?_foldl_actMap_of_mem hall (mem_flushOps.mpr (.inl ⟨b, hb, k, v, hp, hd', rfl⟩))
        (fun _ => actOn_put_overlay _ _ _ _ _ _ _ hp hd') tm
    | none =>
      refine getElem?_foldl_actMap hall ?_
      rw [getElem?_overlay, hp, hd']
      rfl

/-- `RcW Ri c s t`: the CacheDB state `c` represents the spec state `s`, the inner backend
being in a state that represents the inner spec state `t`. -/
structure RcW {σ} (Ri : σ → Spec → Prop) (c : CacheDB σ) (s t : Spec) : Prop where
  inner : Ri c.inner t
  /-- the overlay MemDB is never flushed: it has no committed buckets -/
  nobk : ∀ b, c.mem.buckets b = none
  wf : c.mem.WF
  /-- an overlay bucket always has both pending maps -/
  both : ∀ b, c.mem.has b = true → (c.mem.puts b).isSome = true ∧ (c.mem.dels b).isSome = true
  /-- an overlay bucket exists only for a bucket of the inner backend -/
  sub : ∀ b, c.mem.has b = true → (t.working b).isSome = true
  dur : s.durable = t.durable
  work : ∀ b, s.working b =
    (t.working b).map fun tm => overlay tm ((c.mem.puts b).getD ∅) ((c.mem.dels b).getD ∅)

/-- the refinement relation between a `CacheDB` over a backend related to `Spec` by `Ri`
and the outer `Spec` state -/
def Rc {σ} (Ri : σ → Spec → Prop) (c : CacheDB σ) (s : Spec) : Prop := ∃ t, RcW Ri c s t


/-- what `RcW` says of a single bucket: the overlay's pending maps over the inner working image
`tw` are related to the outer working image `w` as a `MemDB` bucket over its committed map is -/
structure CacheBucket (cm P : Option KMap) (D : Option KSet) (tw w : Option KMap) : Prop where
  nobk : cm = none
  both : P.isSome = D.isSome
  sub : P.isSome = true → tw.isSome = true
  rel : BucketR tw P D w

theorem image_eq_map {tw P : Option KMap} {D : Option KSet} (hP : P.isSome = true → tw.isSome = true)
    (hD : D.isSome = true → tw.isSome = true) :
    image tw P D = tw.map fun tm => overlay tm (P.getD ∅) (D.getD ∅) := by
  cases tw with
  | some tm => simp [image]
  | none =>
    cases P with
    | some p => cases hP rfl
    | none =>
      cases D with
      | some ds => cases hD rfl
      | none => rfl

/-- `RcW` is the form the statements use and its fields are read off directly (`h.nobk`, `h.work`);
to establish it after a step the proofs go through this bucket-by-bucket form -/
theorem RcW_iff {σ} {Ri : σ → Spec → Prop} {c : CacheDB σ} {s t : Spec} :
    RcW Ri c s t ↔ Ri c.inner t ∧ s.durable = t.durable ∧
      ∀ b, CacheBucket (c.mem.buckets b) (c.mem.puts b) (c.mem.dels b) (t.working b) (s.working b) := by
  constructor
  · intro h
    refine ⟨h.inner, h.dur, fun b => ?_⟩
    have hb := h.both b
    have hs := h.sub b
    simp only [MemDB.has, h.nobk b, Option.isSome_none, Bool.false_or, Bool.or_eq_true] at hb hs
    have both : (c.mem.puts b).isSome = (c.mem.dels b).isSome := by
      cases hP : (c.mem.puts b).isSome <;> cases hD : (c.mem.dels b).isSome <;>
        simp [hP, hD] at hb ⊢
    refine ⟨h.nobk b, both, fun hP => hs (.inl hP), ?_, WF_iff.mp h.wf b, fun _ => both⟩
    rw [h.work b, image_eq_map (fun hP => hs (.inl hP)) (fun hD => hs (.inr hD))]
  · intro ⟨hin, hdur, hB⟩
    have hsub : ∀ b, c.mem.has b = true → (c.mem.puts b).isSome = true := by
      intro b hb
      simpa [MemDB.has, (hB b).nobk, (hB b).both] using hb
    refine ⟨hin, fun b => (hB b).nobk, WF_iff.mpr fun b => (hB b).rel.disj, fun b hb => ?_,
      fun b hb => (hB b).sub (hsub b hb), hdur, fun b => ?_⟩
    · exact ⟨hsub b hb, (hB b).both ▸ hsub b hb⟩
    · rw [(hB b).rel.work, image_eq_map (hB b).sub ((hB b).both ▸ (hB b).sub)]

theorem RcW.replaceInner {σ} {Ri : σ → Spec → Prop} {c : CacheDB σ} {s t : Spec} (h : RcW Ri c s t)
    {x : σ} (hx : Ri x t) : RcW Ri { c with inner := x } s t :=
  ⟨hx, h.nobk, h.wf, h.both, h.sub, h.dur, h.work⟩

theorem Rc_init {σ} (Ri : σ → Spec → Prop) (x : σ) (h : Ri x Spec.init) :
    Rc Ri ⟨MemDB.init, x⟩ Spec.init :=
  ⟨Spec.init, RcW_iff.mpr ⟨h, rfl, fun _ => ⟨rfl, rfl, fun h => h, BucketR.committed none⟩⟩⟩

theorem RcW.setPending {σ} {Ri : σ → Spec → Prop} {c : CacheDB σ} {s t : Spec} (h : RcW Ri c s t)
    {b : Nat} {P : Option KMap} {D : Option KSet} {tw w : Option KMap} {x : σ} {t' : Spec}
    (hx : Ri x t') (hd : t'.durable = t.durable) (ht : ∀ b', b' ≠ b → t'.working b' = t.working b')
    (htb : t'.working b = tw) (hb : CacheBucket none P D tw w) :
    RcW Ri ⟨c.mem.setPending b P D, x⟩ { s with working := upd s.working b w } t' := by
  obtain ⟨_, hdur, hB⟩ := RcW_iff.mp h
  refine RcW_iff.mpr ⟨hx, hdur.trans hd.symm, fun b' => ?_⟩
  by_cases hbb : b' = b
  · subst hbb
    simpa only [MemDB.setPending, upd_same, (hB b').nobk, htb] using hb
  · simpa only [MemDB.setPending, upd_other _ _ _ _ hbb, ht b' hbb] using hB b'

theorem ensure_spec {σ} {Ri : σ → Spec → Prop} {c : CacheDB σ} {s t : Spec} (h : RcW Ri c s t)
    (b : Nat) (hb : (t.working b).isSome = true) :
    RcW Ri (c.ensure b) s t ∧ (c.ensure b).inner = c.inner ∧
      ∃ p ds, (c.ensure b).mem.puts b = some p ∧ (c.ensure b).mem.dels b = some ds := by
  unfold CacheDB.ensure
  cases hh : c.mem.has b with
  | true =>
    rw [if_pos rfl]
    obtain ⟨hp, hd⟩ := h.both b hh
    exact ⟨h, rfl, Option.isSome_iff_exists.mp hp |>.elim fun p hp =>
      Option.isSome_iff_exists.mp hd |>.elim fun ds hd => ⟨p, ds, hp, hd⟩⟩
  | false =>
    rw [if_neg Bool.false_ne_true, create_eq, hh, if_neg Bool.false_ne_true]
    obtain ⟨_, hP, hD⟩ := has_eq_false.mp hh
    have hr := ((RcW_iff.mp h).2.2 b).rel
    rw [hP, hD] at hr
    have := h.setPending h.inner rfl (fun _ _ => rfl) rfl ⟨rfl, rfl, fun _ => hb, hr.ensure hb⟩
    rw [upd_self] at this
    exact ⟨this, rfl, _, _, upd_same .., upd_same ..⟩

/-- the frame of every bucket operation: a bucket the inner backend does not have is reported
missing; otherwise the operation acts on the overlay bucket, created on demand.  `X` and `Y` are
found by unification with what `CacheDB.step` and `Spec.step` unfold to. -/
theorem cache_bucket_op {σ} {B : Backend σ} {Ri : σ → Spec → Prop} (hB : Refines B Ri)
    {c : CacheDB σ} {s t : Spec} (h : RcW Ri c s t) (b : Nat) (X : CacheDB σ × Out)
    (Y : KMap → Spec × Out)
    (hXY : ∀ tm p ds m, RcW Ri (c.ensure b) s t → (c.ensure b).inner = c.inner →
      t.working b = some tm → (c.ensure b).mem.puts b = some p → (c.ensure b).mem.dels b = some ds →
      BucketR (some tm) (some p) (some ds) (some m) → X.2 = (Y m).2 ∧ Rc Ri X.1 (Y m).1) :
    (if !innerHas B c.inner b then (c, Out.nobucket) else X).2 =
        (match s.working b with
          | none => (s, Out.nobucket)
          | some m => Y m).2 ∧
      Rc Ri (if !innerHas B c.inner b then (c, Out.nobucket) else X).1
        (match s.working b with
          | none => (s, Out.nobucket)
          | some m => Y m).1 := by
  rw [innerHas_eq hB c.inner t h.inner b, h.work b]
  cases htw : t.working b with
  | none => exact ⟨rfl, t, h⟩
  | some tm =>
    obtain ⟨h1, hin, p, ds, hp, hds⟩ := ensure_spec h b (htw ▸ rfl)
    have hb := ((RcW_iff.mp h1).2.2 b).rel
    rw [h.work b, htw, hp, hds] at hb
    exact hXY tm p ds _ h1 hin htw hp hds hb

theorem flush_writes_spec {σ} {Ri : σ → Spec → Prop} {c : CacheDB σ} {s t : Spec}
    (h : RcW Ri c s t) (names : List Nat) (hn : ∀ b, c.mem.has b = true → b ∈ names) :
    runInner specBackend t (CacheDB.flushOps c.mem names) = { t with working := s.working } := by
  obtain ⟨hd, hwk⟩ := runInner_spec_writes _ (flushOps_isWrite c.mem names) t
  have eta : ∀ x : Spec, x = ⟨x.working, x.durable⟩ := fun _ => rfl
  rw [eta (runInner _ _ _), hd]
  refine congrArg (Spec.mk · t.durable) (funext fun b => ?_)
  rw [hwk b, h.work b]
  exact congrArg (Option.map · (t.working b))
    (funext (foldl_actMap_flushOps c.mem names b (hn b) (WF_iff.mp h.wf b)))

theorem RcW.flush_inner {σ} {B : Backend σ} {Ri : σ → Spec → Prop} (hB : Refines B Ri)
    {c : CacheDB σ} {s t : Spec} (h : RcW Ri c s t) (names : List Nat)
    (hn : ∀ b, c.mem.has b = true → b ∈ names) :
    Ri (runInner B c.inner (CacheDB.flushOps c.mem names)) { t with working := s.working } := by
  have hr := runInner_refines hB (CacheDB.flushOps c.mem names) c.inner t h.inner
  rw [flush_writes_spec h names hn] at hr
  exact hr

theorem BucketR.cleared (c P : Option KMap) (D : Option KSet) (hb : P.isSome = D.isSome)
    (hs : P.isSome = true → c.isSome = true) :
    BucketR c (P.map fun _ => ∅) (D.map fun _ => ∅) c := by
  cases P with
  | none =>
    cases D with
    | none => exact .committed c
    | some _ => cases hb
  | some _ =>
    cases D with
    | none => cases hb
    | some _ => exact (BucketR.committed c).ensure (hs rfl)

/-- the state after `Flush` pushed the overlay into the inner database and cleared it, whatever
the inner commit answered -/
theorem RcW.flushed {σ} {Ri : σ → Spec → Prop} {c : CacheDB σ} {s t : Spec} (h : RcW Ri c s t)
    {x : σ} {s' t' : Spec} (hx : Ri x t') (hd : s'.durable = t'.durable)
    (ht : t'.working = s.working) (hs : s'.working = s.working) :
    RcW Ri ⟨c.mem.cleared, x⟩ s' t' := by
  refine RcW_iff.mpr ⟨hx, hd, fun b => ?_⟩
  have hB := (RcW_iff.mp h).2.2 b
  have hsub : (c.mem.puts b).isSome = true → (s.working b).isSome = true := by
    rw [h.work b, Option.isSome_map]
    exact hB.sub
  refine ⟨?_, ?_, ?_, ?_⟩
  · show (c.mem.buckets b).map _ = none
    rw [hB.nobk]
    rfl
  · show ((c.mem.puts b).map _).isSome = ((c.mem.dels b).map _).isSome
    rw [Option.isSome_map, Option.isSome_map]
    exact hB.both
  · show ((c.mem.puts b).map _).isSome = true → _
    rw [Option.isSome_map, ht]
    exact hsub
  · rw [ht, hs]
    exact BucketR.cleared _ _ _ hB.both hsub

/-- **CacheDB over any backend that refines `Spec` refines `Spec`** (one step).  `names` is
the list of bucket names `Flush` ranges over: any list (any order, duplicates allowed)
that contains every bucket the overlay has. -/
theorem cachedb_step_refines {σ} {B : Backend σ} {Ri : σ → Spec → Prop} (hB : Refines B Ri)
    (c : CacheDB σ) (s : Spec) (h : Rc Ri c s) (names : List Nat)
    (hn : ∀ b, c.mem.has b = true → b ∈ names) (op : Op) :
    (CacheDB.step B names c op).2 = (s.step op).2 ∧
      Rc Ri (CacheDB.step B names c op).1 (s.step op).1 := by
  obtain ⟨t, h⟩ := h
  cases op with
  | create b =>
    have hst := hB.step c.inner t h.inner (.create b)
    have hw := h.work b
    simp only [CacheDB.step, Spec.step]
    rcases hbs : B.step c.inner (.create b) with ⟨x', o⟩
    rw [hbs] at hst
    cases htw : t.working b with
    | some tm =>
      simp only [Spec.step, htw] at hst
      obtain ⟨rfl, hr⟩ := hst
      rw [htw] at hw
      rw [hw]
      exact ⟨rfl, t, h.replaceInner hr⟩
    | none =>
      simp only [Spec.step, htw] at hst
      obtain ⟨rfl, hr⟩ := hst
      rw [htw] at hw
      have hh : c.mem.has b = false := Bool.eq_false_iff.mpr fun hc => by
        have := h.sub b hc
        rw [htw] at this
        cases this
      rw [hw, create_eq, hh]
      exact ⟨rfl, _, h.setPending hr rfl (fun _ hne => upd_other _ _ _ _ hne) (upd_same ..)
        ⟨rfl, rfl, fun _ => rfl, (BucketR.committed (some ∅)).ensure rfl⟩⟩
  | put b k v =>
    refine cache_bucket_op hB h b _ _ fun tm p ds m h1 hin htw hp hds hb => ?_
    rw [put_eq _ b k v (.inr (hp ▸ rfl)), hp, hds]
    exact ⟨rfl, t, h1.setPending h1.inner rfl (fun _ _ => rfl) htw ⟨rfl, rfl, fun _ => rfl, hb.put k v⟩⟩
  | del b k =>
    refine cache_bucket_op hB h b _ _ fun tm p ds m h1 hin htw hp hds hb => ?_
    rw [delete_eq _ b k (.inr (hds ▸ rfl)), hp, hds]
    exact ⟨rfl, t, h1.setPending h1.inner rfl (fun _ _ => rfl) htw ⟨rfl, rfl, fun _ => rfl, hb.delete k⟩⟩
  | get b k =>
    refine cache_bucket_op hB h b _ _ fun tm p ds m h1 hin htw hp hds hb => ?_
    have hg := innerGet_eq hB c.inner t h.inner b k
    rw [htw] at hg
    simp only [hin, hg, Option.bind_some, get_eq_overlay, h1.nobk b, hp, hds, Option.map_some,
      image_eq_some hb.work.symm, getElem?_overlay, Option.getD_none, Option.getD_some,
      ExtTreeMap.getElem?_empty]
    cases p[k]? <;> cases ds.contains k <;> exact ⟨rfl, t, h1⟩
  | iter b =>
    refine cache_bucket_op hB h b _ _ fun tm p ds m h1 hin htw hp hds hb => ?_
    have hg := innerIter_eq hB c.inner t h.inner b
    rw [htw] at hg
    simp only [hin, hg, Option.getD_some, iterMap_eq_overlay, h1.nobk b, hp, hds,
      image_eq_some hb.work.symm, Option.getD_none]
    refine ⟨congrArg Out.kvs (ExtTreeMap.ext_getElem? fun k => ?_), t, h1⟩
    simp only [getElem?_overlay, ExtTreeMap.getElem?_union, ExtTreeMap.getElem?_filter',
      ExtTreeMap.getElem?_empty, ExtTreeMap.contains_eq_isSome_getElem?]
    cases p[k]? <;> cases ds[k]? <;> cases tm[k]? <;> rfl
  | flush =>
    have hr1 := h.flush_inner hB names hn
    exact ⟨rfl, _, h.flushed (hB.step _ _ hr1 .flush).2 rfl rfl rfl⟩
  | cancel =>
    refine ⟨rfl, _, RcW_iff.mpr ⟨(hB.step c.inner t h.inner .cancel).2, h.dur, fun b => ?_⟩⟩
    refine ⟨h.nobk b, rfl, (fun hP => nomatch hP), ?_⟩
    show BucketR (t.durable b) none none (s.durable b)
    rw [h.dur]
    exact BucketR.committed _

theorem create_has (m m' : MemDB) (b0 b : Nat) (h : m.create b0 = some m') (hne : b ≠ b0) :
    m'.has b = m.has b := by
  simp only [MemDB.create] at h
  split at h <;> simp at h
  subst h
  simp [MemDB.has, hne]

theorem put_has (m m' : MemDB) (b0 k v b : Nat) (h : m.put b0 k v = some m') (hne : b ≠ b0) :
    m'.has b = m.has b := by
  simp only [MemDB.put] at h
  split at h <;> simp at h
  subst h
  cases m.dels b0 <;> simp [MemDB.has, hne]

theorem delete_has (m m' : MemDB) (b0 k b : Nat) (h : m.delete b0 k = some m') (hne : b ≠ b0) :
    m'.has b = m.has b := by
  simp only [MemDB.delete] at h
  split at h <;> simp at h
  subst h
  cases m.puts b0 <;> simp [MemDB.has, hne]

theorem ensure_has {σ} (c : CacheDB σ) (b0 b : Nat) (hne : b ≠ b0) :
    (c.ensure b0).mem.has b = c.mem.has b := by
  simp only [CacheDB.ensure]
  split
  · rfl
  · split
    · next m hm => exact create_has _ _ _ _ hm hne
    · rfl

/-- an operation on bucket `b0` leaves the overlay's other buckets as the frame's `X` does -/
theorem has_of_bucket_op {σ} {B : Backend σ} (c : CacheDB σ) {b0 b : Nat} (hne : b ≠ b0)
    {X : CacheDB σ × Out}
    (hb : (if !innerHas B c.inner b0 then (c, Out.nobucket) else X).1.mem.has b = true)
    (hX : X.1.mem.has b = true → (c.ensure b0).mem.has b = true) : c.mem.has b = true := by
  split at hb
  · exact hb
  · exact ensure_has c b0 b hne ▸ hX hb

/-- a step can give the overlay a bucket only for the name the operation mentions -/
theorem cachedb_step_has {σ} (B : Backend σ) (names : List Nat) (c : CacheDB σ) (op : Op)
    (b : Nat) (hb : (CacheDB.step B names c op).1.mem.has b = true) :
    c.mem.has b = true ∨ op.bucket? = some b := by
  by_cases hop : op.bucket? = some b
  · exact .inr hop
  refine .inl ?_
  cases op with
  | create b0 =>
    have hne : b ≠ b0 := fun e => hop (e ▸ rfl)
    simp only [CacheDB.step] at hb
    split at hb
    · split at hb
      · exact hb
      · next m hm => exact create_has _ _ _ _ hm hne ▸ hb
    · exact hb
  | put b0 k v =>
    have hne : b ≠ b0 := fun e => hop (e ▸ rfl)
    simp only [CacheDB.step] at hb
    refine has_of_bucket_op c hne hb fun h => ?_
    split at h
    · exact h
    · next m hm => exact put_has _ _ _ _ _ _ hm hne ▸ h
  | del b0 k =>
    have hne : b ≠ b0 := fun e => hop (e ▸ rfl)
    simp only [CacheDB.step] at hb
    refine has_of_bucket_op c hne hb fun h => ?_
    split at h
    · exact h
    · next m hm => exact delete_has _ _ _ _ _ hm hne ▸ h
  | get b0 k =>
    have hne : b ≠ b0 := fun e => hop (e ▸ rfl)
    simp only [CacheDB.step] at hb
    refine has_of_bucket_op c hne hb fun h => ?_
    split at h
    · exact h
    · split at h <;> exact h
  | iter b0 =>
    simp only [CacheDB.step] at hb
    exact has_of_bucket_op c (fun e => hop (e ▸ rfl)) hb id
  | flush => simpa [CacheDB.step, MemDB.has, MemDB.cleared] using hb
  | cancel =>
    have : (c.mem.buckets b).isSome = true := by simpa [CacheDB.step, MemDB.has, MemDB.cancel] using hb
    simp [MemDB.has, this]

theorem mem_addName_of_mem (names : List Nat) (op : Op) (b : Nat) (h : b ∈ names) :
    b ∈ addName names op := by
  simp only [addName]
  split
  · split <;> simp [h]
  · exact h

theorem mem_addName_of_bucket (names : List Nat) (op : Op) (b : Nat) (h : op.bucket? = some b) :
    b ∈ addName names op := by
  simp only [addName, h]
  split
  · next hc => simpa using hc
  · simp

theorem addName_nodup (names : List Nat) (op : Op) (h : names.Nodup) : (addName names op).Nodup := by
  simp only [addName]
  split
  · split
    · exact h
    · next hc => exact List.nodup_cons.mpr ⟨by simpa using hc, h⟩
  · exact h

/-- relation for a `CacheDB` together with the list of names seen so far.  `Nodup` plays no part in
the refinement (`cachedb_step_refines` accepts any list that contains the overlay's buckets); it
records that the driver's bookkeeping (`addName`) lists each name once, like the key set of the Go
map `Flush` ranges over. -/
def RcN {σ} (Ri : σ → Spec → Prop) (cn : CacheDB σ × List Nat) (s : Spec) : Prop :=
  Rc Ri cn.1 s ∧ (∀ b, cn.1.mem.has b = true → b ∈ cn.2) ∧ cn.2.Nodup

theorem RcN_init {σ} (Ri : σ → Spec → Prop) (x : σ) (h : Ri x Spec.init) :
    RcN Ri (⟨MemDB.init, x⟩, []) Spec.init :=
  ⟨Rc_init Ri x h, by simp [MemDB.init, MemDB.has], List.nodup_nil⟩

/-- the bookkeeping of names across one step, whatever the step is: the names recorded before
stay, so the step may be run with the new list; if it keeps the relation and creates overlay
buckets only for the name `op` mentions, `RcN` holds again -/
theorem RcN.step {σ} {Ri : σ → Spec → Prop} {cn : CacheDB σ × List Nat} {s : Spec}
    (h : RcN Ri cn s) (op : Op) :
    (∀ b, cn.1.mem.has b = true → b ∈ addName cn.2 op) ∧
    ∀ (c' : CacheDB σ) (s' : Spec), Rc Ri c' s' →
      (∀ b, c'.mem.has b = true → cn.1.mem.has b = true ∨ op.bucket? = some b) →
      RcN Ri (c', addName cn.2 op) s' := by
  have hn : ∀ b, cn.1.mem.has b = true → b ∈ addName cn.2 op :=
    fun b hb => mem_addName_of_mem _ _ _ (h.2.1 b hb)
  refine ⟨hn, fun c' s' hrc hhas => ⟨hrc, fun b hb => ?_, addName_nodup _ _ h.2.2⟩⟩
  rcases hhas b hb with h1 | h1
  · exact hn b h1
  · exact mem_addName_of_bucket _ _ _ h1

/-- **compositional form**: if `B` refines `Spec` then so does `CacheDB` over `B`. -/
theorem refines_cache {σ} {B : Backend σ} {Ri : σ → Spec → Prop} (hB : Refines B Ri) :
    Refines (cacheBackend B) (RcN Ri) := by
  constructor
  intro cn s h op
  obtain ⟨hn, hstep⟩ := h.step op
  have := cachedb_step_refines hB cn.1 s h.1 _ hn op
  exact ⟨this.1, hstep _ _ this.2 (cachedb_step_has B _ cn.1 op)⟩

end Verif.KV
