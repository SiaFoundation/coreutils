/-
The notification counter is the only part of the model manager that is not stored, and nothing
the manager decides depends on it: every function, from `rewind` up to `addBlocks`, commutes with
`setN` (the `*_setN` lemmas).  For C03, the manager side of catch-up, this gives: two managers that
agree on records, states and best chain behave identically on every further history
(`addBlocks_sameStored`), and an interrupted batch offered again ends where it would have
(`catchup_interrupted_batch`).
-/
import Verif.Lemmas.ChainKept

namespace Verif.Chain

/-- the manager with another notification count -/
def setN (m : Mgr) (n : Nat) : Mgr := { m with notified := n }

@[simp] theorem setN_recs (m : Mgr) (n : Nat) : (setN m n).recs = m.recs := rfl
@[simp] theorem setN_states (m : Mgr) (n : Nat) : (setN m n).states = m.states := rfl
@[simp] theorem setN_best (m : Mgr) (n : Nat) : (setN m n).best = m.best := rfl
@[simp] theorem setN_notified (m : Mgr) (n : Nat) : (setN m n).notified = n := rfl
@[simp] theorem setN_tip (m : Mgr) (n : Nat) : (setN m n).tip = m.tip := rfl
@[simp] theorem setN_header (m : Mgr) (n : Nat) (i : Nat) : (setN m n).header i = m.header i := rfl
@[simp] theorem setN_block (m : Mgr) (n : Nat) (i : Nat) : (setN m n).block i = m.block i := rfl
@[simp] theorem setN_setN (m : Mgr) (a b : Nat) : setN (setN m a) b = setN m b := rfl

theorem rewind_setN (U : Nat → Blk) (m : Mgr) (n r a : Nat) (ml : Option Nat) (i : Nat) :
    rewind U (setN m n) r a ml i = rewind U m r a ml i := rfl

theorem rewindAbove_setN (U : Nat → Blk) (m : Mgr) (n : Nat) (ml : Option Nat) (h other : Nat)
    (fuel a : Nat) (acc : List Nat) :
    rewindAbove U (setN m n) ml h other fuel a acc = rewindAbove U m ml h other fuel a acc := by
  induction fuel generalizing a acc with
  | zero => rfl
  | succ f ih => simp only [rewindAbove, rewind_setN, ih]

theorem rewindBoth_setN (U : Nat → Blk) (m : Mgr) (n : Nat) (ml : Option Nat)
    (fuel a b : Nat) (rev app : List Nat) :
    rewindBoth U (setN m n) ml fuel a b rev app = rewindBoth U m ml fuel a b rev app := by
  induction fuel generalizing a b rev app with
  | zero => rfl
  | succ f ih => simp only [rewindBoth, rewind_setN, ih]

theorem reorgPath_setN (U : Nat → Blk) (m : Mgr) (n a b : Nat) (ml : Option Nat) :
    reorgPath U (setN m n) a b ml = reorgPath U m a b ml := by
  simp only [reorgPath, rewindAbove_setN, rewindBoth_setN]

theorem revertTip_setN (U : Nat → Blk) (m : Mgr) (n : Nat) :
    revertTip U (setN m n) = (revertTip U m).map (setN · n) := by
  unfold revertTip
  simp only [setN_best, setN_block, setN_states]
  cases m.best with
  | nil => rfl
  | cons t rest =>
    simp only
    cases m.block t with
    | none => rfl
    | some supp =>
      by_cases h1 : m.states (U t).parent = true <;> cases supp <;> simp [h1, Except.map, setN]

theorem applyTip_setN (U : Nat → Blk) (m : Mgr) (n i : Nat) :
    applyTip U (setN m n) i = (applyTip U m i).map (setN · n) := by
  unfold applyTip
  simp only [setN_block, setN_tip]
  cases m.block i with
  | none => rfl
  | some supp =>
    by_cases hp : (U i).parent = m.tip <;> cases supp <;> cases (U i).bodyOk <;>
      simp [hp, Except.map, setN]

theorem revertN_setN (U : Nat → Blk) (n : Nat) : ∀ (k : Nat) (m : Mgr),
    revertN U k (setN m n) = (setN (revertN U k m).1 n, (revertN U k m).2) := by
  intro k
  induction k with
  | zero => intro m; rfl
  | succ k ih =>
    intro m
    simp only [revertN, revertTip_setN]
    cases revertTip U m with
    | error e => rfl
    | ok m' => exact ih m'

theorem applyAll_setN (U : Nat → Blk) (n : Nat) : ∀ (l : List Nat) (m : Mgr),
    applyAll U l (setN m n) = (setN (applyAll U l m).1 n, (applyAll U l m).2) := by
  intro l
  induction l with
  | nil => intro m; rfl
  | cons i is ih =>
    intro m
    simp only [applyAll, applyTip_setN]
    cases applyTip U m i with
    | error e => rfl
    | ok m' => exact ih m'

theorem reorgTo_setN (U : Nat → Blk) (m : Mgr) (n t : Nat) :
    reorgTo U (setN m n) t = (setN (reorgTo U m t).1 n, (reorgTo U m t).2) := by
  unfold reorgTo
  simp only [setN_tip, reorgPath_setN]
  cases reorgPath U m m.tip t none with
  | error e => rfl
  | ok p =>
    obtain ⟨rev, app⟩ := p
    simp only [revertN_setN]
    rcases revertN U rev.length m with ⟨m1, e⟩
    cases e with
    | some e => rfl
    | none => exact applyAll_setN U n app m1

/-- an operation that commutes with setting the counter leaves it alone -/
theorem notified_of_setN {α} {f : Mgr → Mgr × α} {m : Mgr}
    (h : f (setN m m.notified) = (setN (f m).1 m.notified, (f m).2)) : (f m).1.notified = m.notified :=
  congrArg (·.1.notified) (show f m = _ from h)

/-- `maybeReorg` only ever adds to the counter -/
theorem maybeReorg_setN (U : Nat → Blk) (m : Mgr) (n cs : Nat) :
    ∃ k, (maybeReorg U m cs).1.notified = m.notified + k ∧
      maybeReorg U (setN m n) cs = (setN (maybeReorg U m cs).1 (n + k), (maybeReorg U m cs).2) := by
  have hn1 : ∀ m t, (reorgTo U m t).1.notified = m.notified := fun m t =>
    notified_of_setN (f := (reorgTo U · t)) (reorgTo_setN U m m.notified t)
  unfold maybeReorg
  simp only [setN_tip]
  by_cases hh : heavier U cs m.tip = true
  · simp only [hh, if_true, reorgTo_setN]
    rcases hr : reorgTo U m cs with ⟨m1, e1⟩
    have hm1 : m1.notified = m.notified := by have := hn1 m cs; rwa [hr] at this
    cases e1 with
    | none => exact ⟨1, by simp [hm1], by simp [setN]⟩
    | some e =>
      cases e with
      | panic => exact ⟨0, by simp [hm1], by simp [setN]⟩
      | missingBlock | invalidBlock | tooLong =>
        simp only [reorgTo_setN]
        rcases hr2 : reorgTo U m1 m.tip with ⟨m2, e2⟩
        have hn2 : m2.notified = m1.notified := by have := hn1 m1 m.tip; rwa [hr2] at this
        refine ⟨0, ?_, ?_⟩
        · cases e2 with
          | none => simp [hn2, hm1]
          | some e' => cases e' <;> simp [hn2, hm1]
        · cases e2 with
          | none => simp [setN]
          | some e' => cases e' <;> simp [setN]
  · simp only [hh]
    exact ⟨0, by simp, by simp [setN]⟩

theorem go_setN (U : Nat → Blk) (n : Nat) (batch : List Nat) (m : Mgr) (cs : Nat) :
    addBlocks.go U batch (setN m n) cs =
      (setN (addBlocks.go U batch m cs).1 n, (addBlocks.go U batch m cs).2) := by
  induction batch generalizing m cs with
  | nil => rfl
  | cons b bs ih =>
    by_cases hk : m.known b
    · rw [addLoop_known hk, addLoop_known (m := setN m n) hk]
      exact ih m b
    · rw [addLoop_new hk, addLoop_new (m := setN m n) hk, show addCheck U (setN m n) b cs = addCheck U m b cs from rfl]
      cases addCheck U m b cs with
      | some e => rfl
      | none => exact ih { m with states := upd m.states b true, recs := upd m.recs b (some ⟨true, false⟩) } b

/-- **nothing `AddBlocks` decides depends on the notification counter** -/
theorem addBlocks_setN (U : Nat → Blk) (m : Mgr) (n : Nat) (batch : List Nat) :
    ∃ k, (addBlocks U m batch).1.notified = m.notified + k ∧
      addBlocks U (setN m n) batch = (setN (addBlocks U m batch).1 (n + k), (addBlocks U m batch).2) := by
  cases batch with
  | nil => exact ⟨0, by simp [addBlocks], by simp [addBlocks, setN]⟩
  | cons b bs =>
    have hgn : (addBlocks.go U (b :: bs) m m.tip).1.notified = m.notified :=
      notified_of_setN (f := (addBlocks.go U (b :: bs) · m.tip)) (go_setN U m.notified (b :: bs) m m.tip)
    simp only [addBlocks, setN_tip, go_setN]
    rcases hg : addBlocks.go U (b :: bs) m m.tip with ⟨m1, e, cs⟩
    rw [hg] at hgn
    simp only at hgn
    cases e with
    | some err => exact ⟨0, by simp [hgn], by simp [setN]⟩
    | none =>
      simp only
      obtain ⟨k, h1, h2⟩ := maybeReorg_setN U m1 n cs
      exact ⟨k, by rw [h1, hgn], h2⟩

/-- agreement on everything that is stored -/
def SameStored (a b : Mgr) : Prop := a.recs = b.recs ∧ a.states = b.states ∧ a.best = b.best

theorem SameStored.eq_setN {a b : Mgr} (h : SameStored a b) : a = setN b a.notified := by
  obtain ⟨h1, h2, h3⟩ := h
  cases a; cases b; simp_all [setN]

theorem sameStored_setN (m : Mgr) (n : Nat) : SameStored (setN m n) m := ⟨rfl, rfl, rfl⟩

/-- one more batch keeps two managers that agree on what is stored in agreement, with the same
error -/
theorem addBlocks_sameStored (U : Nat → Blk) {a b : Mgr} (h : SameStored a b) (batch : List Nat) :
    SameStored (addBlocks U a batch).1 (addBlocks U b batch).1 ∧ (addBlocks U a batch).2 = (addBlocks U b batch).2 := by
  rw [h.eq_setN]
  obtain ⟨k, _, h2⟩ := addBlocks_setN U b a.notified batch
  rw [h2]
  exact ⟨sameStored_setN _ _, rfl⟩

/-- **a submission that returns no error and offers a sufficiently heavier chain ends on the last
block of the batch** -/
theorem addBlocks_reaches {U} (hU : WFU U) {m : Mgr} (h : Inv U m) (b : Nat) (bs : List Nat)
    (hok : (addBlocks U m (b :: bs)).2 = none) (hh : heavier U (bs.getLastD b) m.tip = true) :
    (addBlocks U m (b :: bs)).1.tip = bs.getLastD b := by
  obtain ⟨j1, j2, _, _, j5, _⟩ := addLoop_spec hU (b :: bs) m m.tip h h.tip_state
  have hcs := addLoop_cs U (b :: bs) m m.tip
  simp only [addBlocks] at hok ⊢
  rcases hg : addBlocks.go U (b :: bs) m m.tip with ⟨m1, e, cs⟩
  rw [hg] at j1 j2 j5 hcs hok
  simp only at j1 j2 j5 hcs hok ⊢
  cases e with
  | some err => simp at hok
  | none =>
    simp only at hok ⊢
    have hcs' : cs = bs.getLastD b := by
      have := hcs rfl
      rw [this]; cases bs <;> simp [List.getLastD]
    have htip : m1.tip = m.tip := by simp [Mgr.tip, j2]
    rcases (maybeReorg_spec j1 j5).2.2 with ⟨_, ⟨_, ht, _⟩ | ⟨hf, _⟩⟩ | ⟨he, _⟩
    · rw [ht, hcs']
    · rw [htip, hcs', hh] at hf; cases hf
    · rw [he] at hok; cases hok

/-- **the interrupted batch, resubmitted to the reopened manager, ends on the same best chain as
it did in the uninterrupted run** — under two hypotheses: the resubmission returns no error (the
reorg it triggers does not fail; otherwise the node returns to the reopened tip and needs the
earlier batches offered again), and its last block is sufficiently heavier than the reopened tip. -/
theorem catchup_interrupted_batch {U} (hU : WFU U) {m m' : Mgr} (h : Inv U m) (h' : Inv U m')
    (b : Nat) (bs : List Nat)
    (hok : (addBlocks U m (b :: bs)).2 = none) (hh : heavier U (bs.getLastD b) m.tip = true)
    (hok' : (addBlocks U m' (b :: bs)).2 = none) (hh' : heavier U (bs.getLastD b) m'.tip = true) :
    (addBlocks U m' (b :: bs)).1.best = (addBlocks U m (b :: bs)).1.best := by
  have t := addBlocks_reaches hU h b bs hok hh
  have t' := addBlocks_reaches hU h' b bs hok' hh'
  exact (addBlocks_spec hU h' (b :: bs)).1.best_eq_of_tip (addBlocks_spec hU h (b :: bs)).1 (t'.trans t.symm)

end Verif.Chain
