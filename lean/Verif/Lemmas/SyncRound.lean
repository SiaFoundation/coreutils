/-
One real sync round against an honest peer = one pull step of the abstract gossip system.

Setting: an honest network — every block of the universe is valid (`AllValid`), forks are
arbitrary.  Node `n` runs `syncLoop` once against a peer whose best chain is `pb`
(`Sync.honestRound`: history sample → `SendHeaders` from the first entry the peer recognises →
request split → `SendCheckpoint`/`SendV2Blocks` → gates → `AddBlocks`/`AddValidatedV2Blocks`).
Result (`honestRound_spec`): the node's best chain becomes `pb` iff `pb`'s tip is
sufficiently heavier than its own tip, and is unchanged otherwise.
-/
import Verif.Lemmas.Sync
import Verif.Lemmas.Chain
import Verif.Model.SyncChain

namespace Verif.Sync

/-- an honest universe: all blocks valid, heights are depths, every block adds more work than a
fifth of its parent's difficulty (a block's work *is* its parent's difficulty), v2 blocks above
the require height -/
structure AllValid (U : Univ) (cfg : Cfg) : Prop where
  p0 : (U 0).parent = 0
  h0 : (U 0).height = 0
  hgt : ∀ b, b ≠ 0 → (U b).height = (U (U b).parent).height + 1
  cid : ∀ b, (U b).cid = b
  hdr : ∀ b, (U b).hdr = true
  orphan : ∀ b, (U b).orphan = true
  body : ∀ b, (U b).body = true
  fut : ∀ b, (U b).future = false
  v2 : ∀ b, cfg.require < (U b).height → (U b).v2 = true
  work : ∀ b, b ≠ 0 → (U b).work > (U (U b).parent).work + (U (U b).parent).diff / 5
  req : 1 ≤ cfg.require

/-- a best chain: tip first, parent-linked, ending in genesis -/
inductive IsChain (U : Univ) : List Nat → Prop
  | gen : IsChain U [0]
  | cons {a b : Nat} {t : List Nat} : a ≠ 0 → (U a).parent = b → IsChain U (b :: t) → IsChain U (a :: b :: t)

/-- the same notion as `Chain.Chain`, on the syncer's block universe -/
theorem isChain_iff {U : Univ} {l : List Nat} : IsChain U l ↔ Chain.Chain (SyncC.toChain U) l := by
  constructor <;> intro h
  · induction h with
    | gen => exact .gen
    | cons ha hp _ ih => exact .cons ha hp ih
  · induction h with
    | gen => exact .gen
    | cons ha hp _ ih => exact .cons ha hp ih

theorem IsChain.ne_nil {U : Univ} {l : List Nat} (h : IsChain U l) : l ≠ [] := (isChain_iff.mp h).ne_nil

theorem IsChain.unique {U : Univ} {l₁ l₂ : List Nat} (h₁ : IsChain U l₁) (h₂ : IsChain U l₂)
    (hh : l₁.head? = l₂.head?) : l₁ = l₂ :=
  (isChain_iff.mp h₁).unique (isChain_iff.mp h₂) hh

theorem IsChain.zero_mem {U : Univ} {l : List Nat} (h : IsChain U l) : 0 ∈ l := (isChain_iff.mp h).zero_mem

theorem IsChain.last {U : Univ} {l : List Nat} (h : IsChain U l) : l.getLast h.ne_nil = 0 := by
  induction h with
  | gen => rfl
  | cons _ _ _ ih => simpa using ih

theorem IsChain.tail {U : Univ} {a : Nat} {t : List Nat} (h : IsChain U (a :: t)) (ht : t ≠ []) : IsChain U t := by
  cases h with
  | gen => exact absurd rfl ht
  | cons _ _ h' => exact h'

/-- `l` (oldest first) is parent-linked starting above `p` -/
def LinkedS (U : Univ) : Nat → List Nat → Prop
  | _, [] => True
  | p, b :: bs => (U b).parent = p ∧ LinkedS U b bs

theorem getLastD_append (l₁ l₂ : List Nat) (d : Nat) : (l₁ ++ l₂).getLastD d = l₂.getLastD (l₁.getLastD d) := by
  cases l₂ <;> simp [List.getLastD_eq_getLast?, List.getLast?_append]

theorem LinkedS.append_iff {U : Univ} : ∀ {p : Nat} {l₁ l₂ : List Nat},
    LinkedS U p (l₁ ++ l₂) ↔ LinkedS U p l₁ ∧ LinkedS U (l₁.getLastD p) l₂
  | _, [], _ => by simp [LinkedS]
  | _, a :: t, _ => by
    simp only [List.cons_append, LinkedS, List.getLastD_cons, and_assoc, LinkedS.append_iff (l₁ := t)]

theorem LinkedS.append {U : Univ} : ∀ {p : Nat} {l₁ l₂ : List Nat}, LinkedS U p l₁ →
    LinkedS U (l₁.getLastD p) l₂ → LinkedS U p (l₁ ++ l₂) :=
  fun h1 h2 => LinkedS.append_iff.mpr ⟨h1, h2⟩

theorem getLastD_eq_getLast {l : List Nat} (hne : l ≠ []) (d : Nat) : l.getLastD d = l.getLast hne := by
  simp [List.getLastD_eq_getLast?, List.getLast?_eq_some_getLast hne]

theorem getLastD_mem {l : List Nat} (hne : l ≠ []) (d : Nat) : l.getLastD d ∈ l :=
  getLastD_eq_getLast hne d ▸ List.getLast_mem hne

theorem getLastD_congr {l : List Nat} (hne : l ≠ []) (d d' : Nat) : l.getLastD d = l.getLastD d' :=
  (getLastD_eq_getLast hne d).trans (getLastD_eq_getLast hne d').symm

theorem cut_first {up : List Nat} {f : Nat} (hn : f ∉ up) (rest : List Nat) :
    (up ++ f :: rest).takeWhile (· != f) = up ∧ suffixFrom (up ++ f :: rest) f = f :: rest := by
  have hp : ∀ a ∈ up, (a != f) = true := fun a ha => bne_iff_ne.mpr fun e => hn (e ▸ ha)
  rw [suffixFrom, List.takeWhile_append_of_pos hp, List.dropWhile_append_of_pos hp]
  simp

theorem IsChain.split {U : Univ} {l : List Nat} (h : IsChain U l) {f : Nat} (hf : f ∈ l) :
    ∃ up rest, l = up ++ f :: rest ∧ f ∉ up ∧ IsChain U (f :: rest) ∧ LinkedS U f up.reverse ∧
      ∀ x ∈ up, x ≠ 0 := by
  induction h with
  | gen => simp at hf; subst hf; exact ⟨[], [], rfl, by simp, .gen, trivial, by simp⟩
  | @cons a b t ha hp ht ih =>
    by_cases e : a = f
    · subst e; exact ⟨[], b :: t, rfl, by simp, .cons ha hp ht, trivial, by simp⟩
    · obtain ⟨up, rest, e1, h1, h2, h3, h4⟩ := ih ((List.mem_cons.mp hf).resolve_left (Ne.symm e))
      refine ⟨a :: up, rest, by rw [e1]; rfl, by simp [Ne.symm e, h1], h2, ?_,
        fun x hx => (List.mem_cons.mp hx).elim (· ▸ ha) (h4 x)⟩
      have hb : up.reverse.getLastD f = b := by
        cases up <;> simp at e1 ⊢ <;> exact e1.1.symm
      rw [List.reverse_cons]
      exact LinkedS.append h3 ⟨hp.trans hb.symm, trivial⟩

/-! ### the minimal manager on an honest universe -/

structure NodeOK (U : Univ) (n : Node) : Prop where
  chain : IsChain U n.best
  bestsupp : ∀ b ∈ n.best, b ∈ n.supp
  suppknown : ∀ b ∈ n.supp, b ∈ n.known
  closed : ∀ b ∈ n.known, b ≠ 0 → (U b).parent ∈ n.known

theorem NodeOK.init {U : Univ} : NodeOK U Node.init := by
  refine ⟨.gen, ?_, ?_, ?_⟩ <;> simp [Node.init]

theorem NodeOK.tip_head {U : Univ} {n : Node} (h : NodeOK U n) : n.best.head? = some n.tip := by
  have := h.chain.ne_nil
  cases hb : n.best with
  | nil => exact absurd hb this
  | cons a t => simp [Node.tip, hb]

theorem NodeOK.tip_known {U : Univ} {n : Node} (h : NodeOK U n) : n.tip ∈ n.known := by
  have := h.tip_head
  have hm : n.tip ∈ n.best := List.mem_of_mem_head? this
  exact h.suppknown _ (h.bestsupp _ hm)

theorem climb_ok {U : Univ} {cfg : Cfg} (av : AllValid U cfg) {n : Node} (hz : 0 ∈ n.best)
    (hc : ∀ b ∈ n.known, b ≠ 0 → (U b).parent ∈ n.known) :
    ∀ (fuel b : Nat), b ∈ n.known → (U b).height + 1 ≤ fuel →
      ∃ up f, climb U n fuel b = some up ∧ Down U f b up ∧ f ∈ n.best ∧
        (∀ x ∈ up, x ∈ n.known ∧ x ∉ n.best) := by
  intro fuel
  induction fuel with
  | zero => intro b _ hf; omega
  | succ fuel ih =>
    intro b hb hf
    by_cases hbest : b ∈ n.best
    · exact ⟨[], b, by simp [climb, hbest], .nil, hbest, by simp⟩
    · have hb0 : b ≠ 0 := fun e => hbest (e ▸ hz)
      have hp := hc b hb hb0
      have hh := av.hgt b hb0
      obtain ⟨up, f, h1, h2, h3, h4⟩ := ih (U b).parent hp (by omega)
      refine ⟨b :: up, f, ?_, .cons h2, h3, ?_⟩
      · simp [climb, hbest, hb, h1]
      · intro x hx
        rcases List.mem_cons.mp hx with rfl | hx
        · exact ⟨hb, hbest⟩
        · exact h4 x hx

theorem applyAll_all_body {U : Univ} (l : List Nat) (hb : ∀ b ∈ l, (U b).body = true) :
    ∀ supp, (applyAll U supp l).2 = true := by
  intro supp
  -- the cases of `applyAll`: no block left; `b` already stored; `b` valid and stored; `b` invalid
  fun_induction applyAll U supp l with
  | case1 => rfl
  | case2 _ _ _ _ ih | case3 _ _ _ _ _ ih => exact ih fun x hx => hb x (List.mem_cons_of_mem _ hx)
  | case4 _ b _ _ h => exact absurd (hb b (List.mem_cons_self ..)) h

theorem Down.chain {U : Univ} {f b : Nat} {up rest : List Nat} (h : Down U f b up)
    (hnz : ∀ x ∈ up, x ≠ 0) (hr : IsChain U (f :: rest)) : IsChain U (up ++ f :: rest) := by
  induction h with
  | nil => simpa using hr
  | @cons b l hd ih =>
    have ih' := ih (fun x hx => hnz x (List.mem_cons_of_mem _ hx))
    have hb0 := hnz b (List.mem_cons_self ..)
    cases l with
    | nil =>
      cases hd
      exact .cons hb0 rfl (by simpa using ih')
    | cons x xs =>
      cases hd with
      | cons hd' => exact .cons hb0 rfl (by simpa using ih')

/-- on an honest universe a reorg to any known block succeeds -/
theorem reorgTo_honest {U : Univ} {cfg : Cfg} (av : AllValid U cfg) {n : Node} (h : NodeOK U n) {t : Nat}
    (ht : t ∈ n.known) :
    (reorgTo U n t).2 = true ∧ NodeOK U (reorgTo U n t).1 ∧ (reorgTo U n t).1.tip = t ∧
      (reorgTo U n t).1.known = n.known := by
  obtain ⟨up, f, h1, h2, h3, h4⟩ := climb_ok av h.chain.zero_mem h.closed ((U t).height + 1) t ht (Nat.le_refl _)
  have hok : (applyAll U n.supp up.reverse).2 = true := applyAll_all_body _ (fun b _ => av.body b) _
  have hsp := applyAll_spec U up.reverse n.supp (fun b _ _ => av.body b)
  have hfork := h2.fork
  obtain ⟨_, rest, e, hn, hs2, _, _⟩ := h.chain.split h3
  have hs1 : suffixFrom n.best f = f :: rest := e ▸ (cut_first hn rest).2
  have hnz : ∀ x ∈ up, x ≠ 0 := fun x hx e => (h4 x hx).2 (e ▸ h.chain.zero_mem)
  have hred : reorgTo U n t = ({ n with best := up ++ suffixFrom n.best f, supp := (applyAll U n.supp up.reverse).1 }, true) := by
    simp only [reorgTo, h1, hok, if_true, hfork]
  rw [hred]
  refine ⟨rfl, ⟨?_, ?_, ?_, h.closed⟩, ?_, rfl⟩
  · show IsChain U (up ++ suffixFrom n.best f)
    rw [hs1]; exact h2.chain hnz hs2
  · intro b hb
    simp only [List.mem_append] at hb
    rcases hb with hb | hb
    · exact hsp.2.1 hok b (by simpa using hb)
    · exact hsp.2.2 b (h.bestsupp b (mem_suffixFrom hb))
  · intro b hb
    show b ∈ n.known
    exact (mem_applyAll hb).elim (h.suppknown b) fun hx => (h4 b (by simpa using hx)).1
  · have := (reorgTo_tip U n t).1
    rw [hred] at this
    exact this rfl

/-- the storing loop of `AddBlocks` on a linked run of (valid) blocks above a known block -/
theorem storeLoop_honest {U : Univ} {cfg : Cfg} (av : AllValid U cfg) : ∀ (c : List Nat) (n : Node) (cs p : Nat),
    (∀ b ∈ n.supp, b ∈ n.known) → (∀ b ∈ n.known, b ≠ 0 → (U b).parent ∈ n.known) →
    p ∈ n.known → LinkedS U p c →
    (storeLoop U n cs c).2.2 = none ∧ (storeLoop U n cs c).1.best = n.best ∧ (storeLoop U n cs c).1.supp = n.supp ∧
    (∀ x ∈ n.known, x ∈ (storeLoop U n cs c).1.known) ∧ (∀ x ∈ c, x ∈ (storeLoop U n cs c).1.known) ∧
    (∀ b ∈ (storeLoop U n cs c).1.known, b ≠ 0 → (U b).parent ∈ (storeLoop U n cs c).1.known) ∧
    (storeLoop U n cs c).2.1 = c.getLastD cs := by
  intro c
  induction c with
  | nil => intro n cs p _ hc _ _; simp [storeLoop]; exact hc
  | cons b bs ih =>
    intro n cs p hsk hc hp ⟨hl1, hl2⟩
    -- the loop goes on from a node that knows `b`: `n` itself if `b` has a supplement, else `n` with `b` stored
    obtain ⟨n', he, hb', hs', hm, hbk, hc'⟩ : ∃ n', storeLoop U n cs (b :: bs) = storeLoop U n' b bs ∧
        n'.best = n.best ∧ n'.supp = n.supp ∧ (∀ x ∈ n.known, x ∈ n'.known) ∧ b ∈ n'.known ∧
        ∀ x ∈ n'.known, x ≠ 0 → (U x).parent ∈ n'.known := by
      by_cases hany : n.supp.any (sameId U b) = true
      · refine ⟨n, by simp only [storeLoop, hany, if_true], rfl, rfl, fun _ hx => hx, ?_, hc⟩
        obtain ⟨x, hx, hs⟩ := List.any_eq_true.mp hany
        simp only [sameId, beq_iff_eq, av.cid] at hs
        exact hsk b (hs ▸ hx)
      · have hpk : n.known.contains (U b).parent = true := by simpa [hl1] using hp
        refine ⟨{ n with known := b :: n.known }, ?_, rfl, rfl, fun x hx => List.mem_cons_of_mem _ hx,
          List.mem_cons_self .., ?_⟩
        · simp only [storeLoop, hany, hpk, Bool.not_true, Bool.and_false, Bool.false_eq_true, if_false, av.fut b,
            av.orphan b]
        · intro x hx hx0
          rcases List.mem_cons.mp hx with rfl | hx
          · exact List.mem_cons_of_mem _ (hl1 ▸ hp)
          · exact List.mem_cons_of_mem _ (hc x hx hx0)
    rw [he, List.getLastD_cons]
    obtain ⟨i1, i2, i3, i4, i5, i6, i7⟩ := ih n' b b (fun x hx => hm x (hsk x (hs' ▸ hx))) hc' hbk hl2
    exact ⟨i1, i2.trans hb', i3.trans hs', fun x hx => i4 x (hm x hx),
      fun x hx => (List.mem_cons.mp hx).elim (· ▸ i4 b hbk) (i5 x), i6, i7⟩

/-- what one honest batch does to the node, through either manager entry point: everything is
stored, and the tip moves to the batch's last block iff that block is sufficiently heavier -/
structure BatchOut (U : Univ) (n n' : Node) (c : List Nat) : Prop where
  ok : NodeOK U n'
  mono : ∀ x ∈ n.known, x ∈ n'.known
  stored : ∀ x ∈ c, x ∈ n'.known
  tip : n'.tip = if heavier U (c.getLastD n.tip) n.tip then c.getLastD n.tip else n.tip

/-- `n1` is `n` after the batch `c` has been stored -/
theorem reorgIf_honest {U : Univ} {cfg : Cfg} (av : AllValid U cfg) {n n1 : Node} (hn1 : NodeOK U n1)
    (hb : n1.best = n.best) (hmono : ∀ x ∈ n.known, x ∈ n1.known) {c : List Nat} (hne : c ≠ [])
    (hst : ∀ x ∈ c, x ∈ n1.known) :
    (reorgIf U n1 (c.getLastD n.tip)).2 = none ∧ BatchOut U n (reorgIf U n1 (c.getLastD n.tip)).1 c := by
  have htip : n1.tip = n.tip := congrArg (List.headD · 0) hb
  obtain ⟨r1, r2, r3, r4⟩ := reorgTo_honest av hn1 (hst _ (getLastD_mem hne n.tip))
  unfold reorgIf
  rw [htip, r1]
  split
  · rename_i hh
    exact ⟨rfl, r2, fun x hx => r4 ▸ hmono x hx, fun x hx => r4 ▸ hst x hx, by rw [r3, if_pos hh]⟩
  · rename_i hh
    exact ⟨rfl, hn1, hmono, hst, by rw [htip, if_neg hh]⟩

theorem addBlocks_honest {U : Univ} {cfg : Cfg} (av : AllValid U cfg) {n : Node} (h : NodeOK U n)
    {c : List Nat} {p : Nat} (hne : c ≠ []) (hp : p ∈ n.known) (hl : LinkedS U p c) :
    (addBlocks U n c).2 = none ∧ BatchOut U n (addBlocks U n c).1 c := by
  cases c with
  | nil => exact absurd rfl hne
  | cons a t =>
    obtain ⟨i1, i2, i3, i4, i5, i6, i7⟩ := storeLoop_honest av (a :: t) n n.tip p h.suppknown h.closed hp hl
    rw [addBlocks_cons]
    rcases hs : storeLoop U n n.tip (a :: t) with ⟨n1, cs, e⟩
    rw [hs] at i1 i2 i3 i4 i5 i6 i7
    simp only at i1 i2 i3 i4 i5 i6 i7
    subst i1 i7
    exact reorgIf_honest av ⟨i2 ▸ h.chain, fun b hb => i3 ▸ h.bestsupp b (i2 ▸ hb),
      fun b hb => i4 b (h.suppknown b (i3 ▸ hb)), i6⟩ i2 i4 hne i5

theorem storeValidated_honest {U : Univ} : ∀ (c : List Nat) (n : Node), (∀ b ∈ c, (U b).v2 = true) →
    (storeValidated U n c).2 = true ∧ (storeValidated U n c).1.best = n.best ∧
    (storeValidated U n c).1.known = c.reverse ++ n.known ∧ (storeValidated U n c).1.supp = c.reverse ++ n.supp := by
  intro c
  induction c with
  | nil => intro n _; simp [storeValidated]
  | cons b bs ih =>
    intro n hv
    unfold storeValidated
    simp only [hv b (List.mem_cons_self ..), Bool.not_true, Bool.false_eq_true, if_false]
    obtain ⟨i1, i2, i3, i4⟩ := ih { n with known := b :: n.known, supp := b :: n.supp } (fun x hx => hv x (List.mem_cons_of_mem _ hx))
    exact ⟨i1, i2, by simp [i3], by simp [i4]⟩

theorem linked_closed {U : Univ} : ∀ (c : List Nat) (p : Nat) (K : List Nat), p ∈ K → LinkedS U p c →
    (∀ b ∈ K, b ≠ 0 → (U b).parent ∈ K) → ∀ b ∈ c.reverse ++ K, b ≠ 0 → (U b).parent ∈ c.reverse ++ K := by
  intro c
  induction c with
  | nil => intro p K _ _ hc b hb; simpa using hc b (by simpa using hb)
  | cons a t ih =>
    intro p K hp ⟨h1, h2⟩ hc b hb hb0
    have hc' : ∀ x ∈ a :: K, x ≠ 0 → (U x).parent ∈ a :: K := by
      intro x hx hx0
      rcases List.mem_cons.mp hx with rfl | hx
      · exact List.mem_cons_of_mem _ (h1 ▸ hp)
      · exact List.mem_cons_of_mem _ (hc x hx hx0)
    have := ih a (a :: K) (List.mem_cons_self ..) h2 hc' b (by simpa [List.reverse_cons, List.append_assoc] using hb) hb0
    simpa [List.reverse_cons, List.append_assoc] using this

theorem addValidated_honest {U : Univ} {cfg : Cfg} (av : AllValid U cfg) {n : Node} (h : NodeOK U n)
    {c : List Nat} {p : Nat} (hne : c ≠ []) (hp : p ∈ n.known) (hl : LinkedS U p c) (hv : ∀ b ∈ c, (U b).v2 = true) :
    (addValidated U n c).2 = none ∧ BatchOut U n (addValidated U n c).1 c := by
  cases c with
  | nil => exact absurd rfl hne
  | cons b0 rest =>
    have hpar : (U b0).parent = p := hl.1
    have hpk : n.known.contains (U b0).parent = true := by simpa [hpar] using hp
    obtain ⟨s1, s2, s3, s4⟩ := storeValidated_honest (b0 :: rest) n hv
    have hn1 : NodeOK U (storeValidated U n (b0 :: rest)).1 := by
      refine ⟨s2 ▸ h.chain, ?_, ?_, ?_⟩
      · intro b hb; rw [s4]; exact List.mem_append_right _ (h.bestsupp b (s2 ▸ hb))
      · intro b hb
        rw [s4] at hb; rw [s3]
        rcases List.mem_append.mp hb with hb | hb
        · exact List.mem_append_left _ hb
        · exact List.mem_append_right _ (h.suppknown b hb)
      · rw [s3]; exact linked_closed (b0 :: rest) p n.known hp hl h.closed
    rw [addValidated_cons]
    simp only [hpk, s1, Bool.not_true, Bool.false_eq_true, if_false]
    rw [getLastD_congr hne b0 n.tip]
    refine reorgIf_honest av hn1 s2 ?_ hne ?_
    · intro x hx; rw [s3]; exact List.mem_append_right _ hx
    · intro x hx; rw [s3]; exact List.mem_append_left _ (List.mem_reverse.mpr hx)

/-! ### work along a chain -/

theorem linked_work {U : Univ} {cfg : Cfg} (av : AllValid U cfg) : ∀ (l : List Nat) (p : Nat), l ≠ [] →
    LinkedS U p l → (∀ b ∈ l, b ≠ 0) → heavier U (l.getLastD p) p = true := by
  intro l
  induction l with
  | nil => intro p h; exact absurd rfl h
  | cons a t ih =>
    intro p _ ⟨h1, h2⟩ hnz
    have ha := av.work a (hnz a (List.mem_cons_self ..))
    rw [h1] at ha
    cases t with
    | nil => exact heavier_iff.2 ha
    | cons b t' =>
      have := heavier_iff.1 (ih a (by simp) h2 fun x hx => hnz x (List.mem_cons_of_mem _ hx))
      rw [List.getLastD_cons, heavier_iff]
      omega

theorem chain_work_le {U : Univ} {cfg : Cfg} (av : AllValid U cfg) {l : List Nat} (h : IsChain U l) :
    ∀ x ∈ l, (U x).work ≤ (U (l.headD 0)).work := by
  induction h with
  | gen => intro x hx; simp at hx; subst hx; simp
  | @cons a b t ha hp _ ih =>
    intro x hx
    rcases List.mem_cons.mp hx with rfl | hx
    · simp
    · have h1 := ih x hx
      have h2 := av.work a ha
      rw [hp] at h2
      simp only [List.headD_cons] at h1 ⊢
      omega

theorem linked_height {U : Univ} {cfg : Cfg} (av : AllValid U cfg) : ∀ (l : List Nat) (p : Nat),
    LinkedS U p l → (∀ b ∈ l, b ≠ 0) →
    (U (l.getLastD p)).height = (U p).height + l.length ∧ ∀ b ∈ l, (U p).height < (U b).height := by
  intro l
  induction l with
  | nil => intro p _ _; simp
  | cons a t ih =>
    intro p ⟨h1, h2⟩ hnz
    have ha := av.hgt a (hnz a (List.mem_cons_self ..))
    rw [h1] at ha
    obtain ⟨i1, i2⟩ := ih a h2 (fun x hx => hnz x (List.mem_cons_of_mem _ hx))
    refine ⟨by rw [List.getLastD_cons, i1, ha]; simp; omega, ?_⟩
    intro b hb
    rcases List.mem_cons.mp hb with rfl | hb
    · omega
    · have := i2 b hb; omega

/-! ### the gates against an honest peer -/

theorem headersOk_linked {U : Univ} {cfg : Cfg} (av : AllValid U cfg) : ∀ (l : List Nat) (p : Nat),
    LinkedS U p l → headersOk U p l = true := by
  intro l
  induction l with
  | nil => intro _ _; rfl
  | cons a t ih =>
    intro p ⟨h1, h2⟩
    simp [headersOk, h1, av.cid, av.hdr, ih a h2]

theorem validateChain_linked {U : Univ} {cfg : Cfg} (av : AllValid U cfg) : ∀ (l : List Nat) (p : Nat),
    LinkedS U p l → validateChain U true p l = true := by
  intro l
  induction l with
  | nil => intro _ _; rfl
  | cons a t ih =>
    intro p ⟨h1, h2⟩
    simp [validateChain, h1, av.cid, av.body, av.fut, ih a h2]

/-- one request answered by an honest peer passes its gate and is accepted by the manager -/
theorem stepBatch_honest {U : Univ} {cfg : Cfg} (av : AllValid U cfg) {n : Node} (h : NodeOK U n) (q : Req)
    (hb : q.base ∈ n.known) (hne : q.hdrs ≠ []) (hl : LinkedS U q.base q.hdrs) (hnz : ∀ b ∈ q.hdrs, b ≠ 0)
    (hh : (U q.base).height = q.baseHeight) :
    (stepBatch U cfg n q (serveBatch q)).2 = .apply ∧ BatchOut U n (stepBatch U cfg n q (serveBatch q)).1 q.hdrs := by
  by_cases hreq : q.baseHeight ≥ cfg.require
  · have hg : gateBatch U cfg q (serveBatch q) = .ok q.hdrs true := by
      simp [gateBatch, serveBatch, hreq, sameId, av.orphan, validateChain_linked av q.hdrs q.base hl]
    have hv : ∀ b ∈ q.hdrs, (U b).v2 = true := by
      intro b hbm
      have := (linked_height av q.hdrs q.base hl hnz).2 b hbm
      exact av.v2 b (by omega)
    obtain ⟨a1, a2⟩ := addValidated_honest av h hne hb hl hv
    simp only [stepBatch, hg, if_true, a1]
    exact ⟨rfl, a2⟩
  · have hg : gateBatch U cfg q (serveBatch q) = .ok q.hdrs false := by
      simp [gateBatch, serveBatch, hreq]
    obtain ⟨a1, a2⟩ := addBlocks_honest av h hne hb hl
    simp only [stepBatch, hg, Bool.false_eq_true, if_false, a1]
    exact ⟨rfl, a2⟩

/-- the requests of a round: consecutive linked runs of headers, each based on the last block
of the previous one, with the right base height -/
def ReqsOK (U : Univ) : Nat → List Req → Prop
  | _, [] => True
  | p, q :: qs => q.base = p ∧ q.hdrs ≠ [] ∧ LinkedS U p q.hdrs ∧ (∀ b ∈ q.hdrs, b ≠ 0) ∧
      (U p).height = q.baseHeight ∧ ReqsOK U (q.hdrs.getLastD p) qs

/-- the last block of the last request (`p` if there is none) -/
def lastEnd : List Req → Nat → Nat
  | [], p => p
  | q :: qs, p => lastEnd qs (q.hdrs.getLastD p)

/-- the two forms of "the tip sits on `a` if `a` is sufficiently heavier, else on `b`" -/
theorem tip_eq_ite {x a b : Nat} {c : Bool} :
    (x = b ∧ c = false ∨ x = a ∧ c = true) ↔ x = if c then a else b := by
  cases c <;> simp

/-- **the batches of an honest round**: every request is accepted, and the tip ends on the last
block iff that block is sufficiently heavier than the tip `t0` the round started from.  (Either
the tip has not moved yet and the current base is not heavier than it, or it sits on the current
base; a later block of the same chain is always sufficiently heavier than an earlier one.) -/
theorem runBatches_honest {U : Univ} {cfg : Cfg} (av : AllValid U cfg) (t0 : Nat) : ∀ (qs : List Req) (n : Node) (p : Nat),
    NodeOK U n → p ∈ n.known → ReqsOK U p qs →
    ((n.tip = t0 ∧ heavier U p t0 = false) ∨ (n.tip = p ∧ heavier U p t0 = true)) →
    (runBatches U cfg n qs (qs.map serveBatch)).2.1 = .apply ∧
    NodeOK U (runBatches U cfg n qs (qs.map serveBatch)).1 ∧
    (runBatches U cfg n qs (qs.map serveBatch)).1.tip =
      (if heavier U (lastEnd qs p) t0 then lastEnd qs p else t0) := by
  intro qs
  induction qs with
  | nil =>
    intro n p h _ _ hst
    exact ⟨rfl, h, tip_eq_ite.mp hst⟩
  | cons q qs ih =>
    intro n p h hp ⟨r1, r2, r3, r4, r5, r6⟩ hst
    subst r1
    obtain ⟨s1, s2⟩ := stepBatch_honest av h q hp r2 r3 r4 r5
    have he := linked_work av q.hdrs q.base r2 r3 r4
    have hek := s2.stored _ (getLastD_mem r2 q.base)
    have hstate := tip_eq_ite.mpr <| show (stepBatch U cfg n q (serveBatch q)).1.tip =
        if heavier U (q.hdrs.getLastD q.base) t0 then q.hdrs.getLastD q.base else t0 by
      rw [s2.tip, getLastD_congr r2 n.tip q.base]
      rcases hst with ⟨h1, _⟩ | ⟨h1, h2⟩
      · rw [h1]
      · -- a later block of the same chain is sufficiently heavier than what the base was
        have : heavier U (q.hdrs.getLastD q.base) t0 = true := by
          rw [heavier_iff] at he h2 ⊢
          omega
        rw [h1, he, this]
        rfl
    have := ih _ (q.hdrs.getLastD q.base) s2.ok hek r6 hstate
    simp only [List.map_cons, runBatches, s1, if_true, lastEnd]
    exact this

/-! ### the request split -/

theorem mkReqsAux_ok {U : Univ} {cfg : Cfg} (av : AllValid U cfg) (k h0 : Nat) (hk : 0 < k) :
    ∀ (fuel : Nat) (l : List Nat) (p i : Nat), l.length ≤ fuel → LinkedS U p l → (∀ b ∈ l, b ≠ 0) →
      (l ≠ [] → (U p).height = h0 + i * k) →
      ReqsOK U p (mkReqsAux U k h0 i (chunksAux k fuel l)) ∧
      lastEnd (mkReqsAux U k h0 i (chunksAux k fuel l)) p = l.getLastD p := by
  intro fuel
  induction fuel with
  | zero =>
    intro l p i hl _ _ _
    have : l = [] := List.length_eq_zero_iff.mp (Nat.le_zero.mp hl)
    subst this; simp [chunksAux, mkReqsAux, ReqsOK, lastEnd]
  | succ fuel ih =>
    intro l p i hl hlk hnz hh
    cases l with
    | nil => simp [chunksAux, mkReqsAux, ReqsOK, lastEnd]
    | cons a t =>
      have hsplit := List.take_append_drop k (a :: t)
      obtain ⟨t1, t2⟩ := LinkedS.append_iff.mp (hsplit.symm ▸ hlk)
      have hnz1 : ∀ b ∈ (a :: t).take k, b ≠ 0 := fun b hb => hnz b (List.mem_of_mem_take hb)
      have hne : (a :: t).take k ≠ [] := by cases k <;> simp at hk ⊢
      have hhead : ((a :: t).take k).headD 0 = a := by cases k <;> simp at hk ⊢
      -- the next request starts a full chunk higher, if there is one
      have hh2 : (a :: t).drop k ≠ [] → (U (((a :: t).take k).getLastD p)).height = h0 + (i + 1) * k := by
        intro hd
        have : k < (a :: t).length := Nat.lt_of_not_le fun hc => hd (List.drop_eq_nil_of_le hc)
        rw [(linked_height av _ p t1 hnz1).1, List.length_take, hh (by simp), Nat.add_mul]; omega
      obtain ⟨j1, j2⟩ := ih ((a :: t).drop k) (((a :: t).take k).getLastD p) (i + 1)
        (by simp only [List.length_drop, List.length_cons] at hl ⊢; omega) t2
        (fun b hb => hnz b (List.mem_of_mem_drop hb)) hh2
      simp only [chunksAux, List.isEmpty_cons, Bool.false_eq_true, if_false, mkReqsAux, hhead, ReqsOK, lastEnd]
      exact ⟨⟨hlk.1, hne, t1, hnz1, hh (by simp), j1⟩, by rw [j2, ← getLastD_append, hsplit]⟩

theorem mkReqs_ok {U : Univ} {cfg : Cfg} (av : AllValid U cfg) (k : Nat) (base : Nat) (hdrs : List Nat)
    (hl : LinkedS U base hdrs) (hnz : ∀ b ∈ hdrs, b ≠ 0) :
    ReqsOK U base (mkReqs U k base hdrs) ∧ lastEnd (mkReqs U k base hdrs) base = hdrs.getLastD base := by
  unfold mkReqs chunks
  exact mkReqsAux_ok av (max k 1) (U base).height (by omega) hdrs.length hdrs base 0 (Nat.le_refl _) hl hnz (fun _ => by simp)

/-! ### the header phase against an honest peer -/

theorem headerPhase_honest {U : Univ} {cfg : Cfg} (av : AllValid U cfg) {pb : List Nat} (hpb : IsChain U pb) :
    ∀ (hist : List Nat), (∃ x ∈ hist, x ∈ pb) →
      ∃ base, base ∈ hist ∧ base ∈ pb ∧
        (headerPhase U hist (hist.map (serveHeaders pb))).1 =
          (if ((pb.takeWhile (· != base)).reverse).isEmpty then HOut.synced
           else HOut.go base ((pb.takeWhile (· != base)).reverse) 0) := by
  intro hist
  induction hist with
  | nil => intro ⟨x, hx, _⟩; simp at hx
  | cons id rest ih =>
    intro hex
    by_cases hid : id ∈ pb
    · refine ⟨id, List.mem_cons_self .., hid, ?_⟩
      have hc : pb.contains id = true := by simpa using hid
      obtain ⟨up, rest, e, hn, _, hl, _⟩ := hpb.split hid
      have hok := headersOk_linked av _ id hl
      rw [← (cut_first hn rest).1, ← e] at hok
      simp only [List.map_cons, serveHeaders, hc, if_true, headerPhase, hok, Bool.not_true, Bool.false_eq_true, if_false]
      split <;> rfl
    · obtain ⟨x, hx, hxp⟩ := hex
      have hx' : x ∈ rest := by
        rcases List.mem_cons.mp hx with rfl | h
        · exact absurd hxp hid
        · exact h
      obtain ⟨base, h1, h2, h3⟩ := ih ⟨x, hx', hxp⟩
      refine ⟨base, List.mem_cons_of_mem _ h1, h2, ?_⟩
      have hc : pb.contains id = false := by simpa using hid
      simp only [List.map_cons, serveHeaders, hc, Bool.false_eq_true, if_false, headerPhase]
      exact h3

/-! ### one honest round = one pull -/

theorem NodeOK.best_eq {U : Univ} {n : Node} (h : NodeOK U n) {l : List Nat} (hl : IsChain U l)
    (hh : l.head? = some n.tip) : n.best = l :=
  h.chain.unique hl (by rw [h.tip_head, hh])

/-- **one real sync round against an honest peer is one pull step**: the node keeps the node
invariant, and its best chain becomes the peer's iff the peer's tip is sufficiently heavier than
its own tip. -/
theorem honestRound_spec {U : Univ} {cfg : Cfg} (av : AllValid U cfg) {n : Node} (h : NodeOK U n)
    {pb : List Nat} (hpb : IsChain U pb) (hlen : n.best.length ≤ 8388616) :
    NodeOK U (honestRound U cfg n pb) ∧
    (honestRound U cfg n pb).best = (if heavier U (pb.headD 0) n.tip then pb else n.best) := by
  have hne := h.chain.ne_nil
  have h0 : (0 : Nat) ∈ history n.best := by
    have := last_mem_history n.best hne (histOffset_31 ▸ hlen)
    rwa [h.chain.last] at this
  obtain ⟨base, hb1, hb2, hph⟩ := headerPhase_honest av hpb (history n.best) ⟨0, h0, hpb.zero_mem⟩
  obtain ⟨up, rest, e, hn, _, hl, hnz⟩ := hpb.split hb2
  rw [e, (cut_first hn rest).1, ← e] at hph
  have hbn : base ∈ n.best := mem_of_mem_history n.best hne hb1
  have htipD : n.best.headD 0 = n.tip := rfl
  have hnh : heavier U base n.tip = false := by
    have := chain_work_le av h.chain base hbn
    rw [htipD] at this
    rw [← Bool.not_eq_true, heavier_iff]
    omega
  unfold honestRound
  simp only []
  rcases hp : headerPhase U (history n.best) ((history n.best).map (serveHeaders pb)) with ⟨o, asked⟩
  rw [hp] at hph
  simp only at hph
  cases up with
  | nil =>
    -- the peer's tip is on our best chain: nothing to fetch
    subst hph
    refine ⟨h, ?_⟩
    have : pb.headD 0 = base := by rw [e]; rfl
    rw [this, hnh]; simp
  | cons a t =>
    rw [if_neg (by simp)] at hph
    subst hph
    simp only [stepSync, hp]
    obtain ⟨q1, q2⟩ := mkReqs_ok av cfg.perReq base _ hl fun b hb => hnz b (List.mem_reverse.mp hb)
    have hbk : base ∈ n.known := h.suppknown _ (h.bestsupp _ hbn)
    obtain ⟨r1, r2, r3⟩ := runBatches_honest av n.tip _ n base h hbk q1 (.inl ⟨rfl, hnh⟩)
    have hhd : (a :: t).reverse.getLastD base = pb.headD 0 := by rw [e]; simp
    rw [q2, hhd] at r3
    refine ⟨r2, ?_⟩
    have hpbh : pb.head? = some (pb.headD 0) := by
      cases pb with
      | nil => exact absurd rfl hpb.ne_nil
      | cons a t => rfl
    by_cases hh : heavier U (pb.headD 0) n.tip = true
    · rw [if_pos hh] at r3 ⊢
      exact r2.best_eq hpb (by rw [hpbh, r3])
    · rw [if_neg hh] at r3 ⊢
      exact r2.best_eq h.chain (by rw [h.tip_head, r3])

/-! ### the concrete gossip system refines the abstract one -/

theorem chain_len {U : Univ} {cfg : Cfg} (av : AllValid U cfg) {l : List Nat} (h : IsChain U l) :
    l.length = (U (l.headD 0)).height + 1 := by
  induction h with
  | gen => simp [av.h0]
  | @cons a b t ha hp _ ih =>
    have := av.hgt a ha
    rw [hp] at this
    simp only [List.headD_cons, List.length_cons] at ih ⊢
    omega

/-- the 32-entry history sample reaches genesis only for chains of at most `histOffset 31 + 1`
(`= 7 + 2^23 + 1 = 8388616`, `histOffset_31`) blocks: the bound of `last_mem_history` -/
def HeightBound (U : Univ) : Prop := ∀ b, (U b).height < 8388616

theorem pullC_spec {U : Univ} {cfg : Cfg} (av : AllValid U cfg) (hbd : HeightBound U)
    {σ : Nat → Node} (h : ∀ x, NodeOK U (σ x)) (e : Nat × Nat) (x : Nat) :
    NodeOK U (pullC U cfg σ e x) ∧ (pullC U cfg σ e x).tip = pull U (fun y => (σ y).tip) e x := by
  unfold pullC pull
  by_cases hx : x = e.1
  · have hlen : (σ e.1).best.length ≤ 8388616 := by
      rw [chain_len av (h e.1).chain]; have := hbd ((σ e.1).best.headD 0); omega
    obtain ⟨r1, r2⟩ := honestRound_spec (cfg := cfg) av (h e.1) (h e.2).chain hlen
    rw [if_pos hx]
    refine ⟨r1, ?_⟩
    simp only [Node.tip, r2, hx, true_and]
    exact apply_ite (List.headD · 0) ..
  · rw [if_neg hx, if_neg (fun c => hx c.1)]; exact ⟨h x, rfl⟩

theorem runSchedC_spec {U : Univ} {cfg : Cfg} (av : AllValid U cfg) (hbd : HeightBound U)
    {σ0 : Nat → Node} (h0 : ∀ x, NodeOK U (σ0 x)) (sched : Nat → Nat × Nat) :
    ∀ k x, NodeOK U (runSchedC U cfg σ0 sched k x) ∧
      (runSchedC U cfg σ0 sched k x).tip = runSched U (fun y => (σ0 y).tip) sched k x := by
  intro k
  induction k with
  | zero => intro x; exact ⟨h0 x, rfl⟩
  | succ k ih =>
    intro x
    have := pullC_spec (cfg := cfg) av hbd (fun y => (ih y).1) (sched k) x
    rwa [funext fun y => (ih y).2] at this

end Verif.Sync
