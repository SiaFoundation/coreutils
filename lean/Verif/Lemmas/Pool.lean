/-
The pool's index map (C14): `IdxOK`, "the shared id ↦ position map describes both slices exactly",
is kept by the loops (`AccIdx`) and by every operation (`Inv`, `run_inv`); lookups read off it
(`lookupIn_iff`); `AddOutcome` lists what a set submission can do to the pool (`addSet_outcome`).
Model: `Verif/Model/Pool.lean`.  Core only.
-/
import Verif.Model.Pool

namespace Verif.Pool

@[simp] theorem upd_same (f : Nat → Option Nat) (k : Nat) (v : Option Nat) : upd f k v k = v := by
  simp [upd]

@[simp] theorem upd_other (f : Nat → Option Nat) (k k' : Nat) (v : Option Nat) (h : k' ≠ k) :
    upd f k v k' = f k' := by
  simp [upd, h]

theorem push_idx (a : Acc) (t : Txn) : (push a t).idx = upd a.idx t.id (some a.kept.length) := rfl
theorem push_kept (a : Acc) (t : Txn) : (push a t).kept = a.kept ++ [t] := rfl

def poolIds (p : Pool) : List Nat := (p.txns ++ p.v2txns).map (·.id)

theorem refill_induct {cfg l v2} {P : Acc → Prop} : ∀ (ts : List Txn) (a : Acc),
    (∀ a, ∀ t ∈ ts, a.idx t.id = none → txValid cfg l a.ms v2 t = true → P a → P (push a t)) →
    P a → P (refill cfg l v2 a ts)
  | [], _, _, h => h
  | t :: ts, a, hp, h => by
    refine refill_induct ts _ (fun a u hu => hp a u (List.mem_cons_of_mem _ hu)) ?_
    unfold refillStep
    split
    · exact h
    · rename_i hn
      split
      · exact hp a t List.mem_cons_self (by simpa using hn) ‹_› h
      · exact h

theorem addLoop_induct {cfg l v2} {P : Acc → Prop} : ∀ (set : List Txn) (a : Acc),
    (∀ a, ∀ t ∈ set, a.idx t.id = none → txValid cfg l a.ms v2 t = true → P a → P (push a t)) →
    P a → P (addLoop cfg l v2 a set).1
  | [], _, _, h => h
  | t :: ts, a, hp, h => by
    have hp' := fun a u hu => hp a u (List.mem_cons_of_mem _ hu)
    unfold addLoop
    split
    · exact addLoop_induct ts a hp' h
    · rename_i hn
      split
      · exact addLoop_induct ts _ hp' (hp a t List.mem_cons_self (by simpa using hn) ‹_› h)
      · exact h

/-- what the accumulator of a loop knows about positions: `other` is the slice not being
appended to -/
structure AccIdx (other : List Txn) (a : Acc) : Prop where
  oth : ∀ i t, other[i]? = some t → a.idx t.id = some i
  kep : ∀ i t, a.kept[i]? = some t → a.idx t.id = some i
  mem : ∀ id, (a.idx id).isSome → id ∈ (other ++ a.kept).map (·.id)

theorem AccIdx.push {other : List Txn} {a : Acc} (h : AccIdx other a) (t : Txn)
    (hn : a.idx t.id = none) : AccIdx other (push a t) := by
  have old : ∀ {i} {u : Txn}, a.idx u.id = some i → (Verif.Pool.push a t).idx u.id = some i := by
    intro i u hu
    have hne : u.id ≠ t.id := fun e => by rw [e, hn] at hu; cases hu
    simpa [Verif.Pool.push, upd_other _ _ _ _ hne] using hu
  refine ⟨fun i u hu => old (h.oth i u hu), fun i u hu => ?_, fun id hid => ?_⟩
  · simp only [Verif.Pool.push, List.getElem?_append] at hu
    split at hu
    · exact old (h.kep i u hu)
    · rw [List.getElem?_singleton] at hu
      split at hu
      · cases hu
        have : i = a.kept.length := by omega
        simp [Verif.Pool.push, this]
      · cases hu
  · by_cases he : id = t.id
    · simp [Verif.Pool.push, he]
    · have := h.mem id (by simpa [Verif.Pool.push, upd_other _ _ _ _ he] using hid)
      simp only [Verif.Pool.push, List.map_append, List.mem_append] at this ⊢
      exact this.elim Or.inl fun h2 => Or.inr (Or.inl h2)

theorem refill_accIdx {cfg l v2 other} (ts : List Txn) (a : Acc) (h : AccIdx other a) :
    AccIdx other (refill cfg l v2 a ts) :=
  refill_induct ts a (fun _ t _ hn _ h => h.push t hn) h

/-- the shared index map is exact: it sends the id of every pooled transaction to its position in
its slice and knows no other id -/
structure IdxOK (p : Pool) : Prop where
  v1 : ∀ i t, p.txns[i]? = some t → p.indices t.id = some i
  v2 : ∀ i t, p.v2txns[i]? = some t → p.indices t.id = some i
  mem : ∀ id, (p.indices id).isSome → id ∈ poolIds p

theorem rebuild_eq (cfg : Cfg) (p : Pool) : ∃ a1 a2 : Acc,
    a1 = refill cfg p.led false ⟨MidState.empty, fun _ => none, 0, []⟩ (p.txns ++ p.lastReverted) ∧
    a2 = refill cfg p.led true { a1 with kept := [] } (p.v2txns ++ p.lastRevertedV2) ∧
    rebuild cfg p = { p with
      txns := a1.kept, v2txns := a2.kept, indices := a2.idx, ms := some a2.ms, weight := a2.weight,
      lastReverted := [], lastRevertedV2 := [] } :=
  ⟨_, _, rfl, rfl, rfl⟩

theorem rebuild_idxOK (cfg : Cfg) (p : Pool) : IdxOK (rebuild cfg p) := by
  obtain ⟨a1, a2, e1, e2, e⟩ := rebuild_eq cfg p
  have h1 : AccIdx [] a1 := e1 ▸ refill_accIdx _ _ ⟨by simp, by simp, by simp⟩
  have h2 : AccIdx a1.kept a2 := e2 ▸ refill_accIdx _ _ ⟨h1.kep, by simp, by simpa using h1.mem⟩
  exact e ▸ ⟨h2.oth, h2.kep, h2.mem⟩

theorem rebuild_ms (cfg : Cfg) (p : Pool) : (rebuild cfg p).ms.isSome = true := rfl

theorem revalidate_induct {cfg : Cfg} {p : Pool} {Q : Pool → Prop} (h1 : p.ms.isSome = true → Q p)
    (h2 : ∀ q, q = p ∨ q = evict cfg p → Q (rebuild cfg q)) : Q (revalidate cfg p) := by
  unfold revalidate
  split
  · rename_i h
    exact h1 (Bool.and_eq_true_iff.1 h).1
  · split
    · exact h2 _ (Or.inr rfl)
    · exact h2 _ (Or.inl rfl)

theorem revalidate_ms (cfg : Cfg) (p : Pool) : (revalidate cfg p).ms.isSome = true :=
  revalidate_induct (Q := fun q => q.ms.isSome = true) id fun q _ => rebuild_ms cfg q

/-- the invariant carried through histories: whenever the mid-state is present, the index map
is exact -/
def Inv (p : Pool) : Prop := p.ms.isSome = true → IdxOK p

theorem revalidate_idxOK (cfg : Cfg) (p : Pool) (h : Inv p) : IdxOK (revalidate cfg p) :=
  revalidate_induct (Q := IdxOK) h fun q _ => rebuild_idxOK cfg q

theorem lookupIn_some {ts : List Txn} {idx : Nat → Option Nat} {id : Nat} {t : Txn}
    (h : lookupIn ts idx id = some t) : t ∈ ts ∧ t.id = id := by
  unfold lookupIn at h
  split at h
  · cases h
  · split at h
    · cases h
    · rename_i ht'
      split at h
      · cases h
        exact ⟨List.mem_of_getElem? ht', ‹_›⟩
      · cases h

theorem lookupIn_of_mem {ts : List Txn} {idx : Nat → Option Nat} {t : Txn}
    (hidx : ∀ i t, ts[i]? = some t → idx t.id = some i) (h : t ∈ ts) :
    lookupIn ts idx t.id = some t := by
  obtain ⟨i, hi⟩ := List.getElem?_of_mem h
  simp [lookupIn, hidx i t hi, hi]

theorem lookupIn_iff {ts : List Txn} {idx : Nat → Option Nat}
    (hidx : ∀ i t, ts[i]? = some t → idx t.id = some i) (id : Nat) (t : Txn) :
    lookupIn ts idx id = some t ↔ t ∈ ts ∧ t.id = id :=
  ⟨lookupIn_some, fun ⟨hm, e⟩ => e ▸ lookupIn_of_mem hidx hm⟩

theorem lookupIn_none_iff {ts : List Txn} {idx : Nat → Option Nat}
    (hidx : ∀ i t, ts[i]? = some t → idx t.id = some i) (id : Nat) :
    lookupIn ts idx id = none ↔ ∀ t ∈ ts, t.id ≠ id := by
  rw [Option.eq_none_iff_forall_ne_some]
  exact ⟨fun h t ht e => h t ((lookupIn_iff hidx id t).2 ⟨ht, e⟩),
    fun h t e => h t (lookupIn_some e).1 (lookupIn_some e).2⟩

def sumW (ts : List Txn) : Nat := (ts.map (·.weight)).sum

@[simp] theorem sumW_nil : sumW [] = 0 := rfl
@[simp] theorem sumW_cons (t : Txn) (ts : List Txn) : sumW (t :: ts) = t.weight + sumW ts := by
  simp [sumW]
@[simp] theorem sumW_append (a b : List Txn) : sumW (a ++ b) = sumW a + sumW b := by
  simp [sumW]

/-- what the submission loop has done when it stops with `r`, having appended `new`: it appended only
transactions of the set whose ids were unknown, left every other id where it was, and if it went
through, every id of the set is known afterwards -/
structure AddLoopOut (a : Acc) (set : List Txn) (r : Acc × Bool) (new : List Txn) : Prop where
  kept : r.1.kept = a.kept ++ new
  sub : new.Sublist set
  fresh : ∀ t ∈ new, a.idx t.id = none
  others : ∀ id, id ∉ new.map (·.id) → r.1.idx id = a.idx id
  mono : ∀ id, (a.idx id).isSome → (r.1.idx id).isSome
  all : r.2 = true → ∀ t ∈ set, (r.1.idx t.id).isSome
  weight : r.1.weight = a.weight + sumW new

theorem addLoop_props (cfg : Cfg) (l : Ledger) (v2 : Bool) : ∀ (set : List Txn) (a : Acc) (r : Acc × Bool),
    addLoop cfg l v2 a set = r → ∃ new : List Txn, AddLoopOut a set r new
  | [], a, _, rfl => ⟨[], (List.append_nil _).symm, .slnil, nofun, fun _ _ => rfl, fun _ h => h, fun _ => nofun, rfl⟩
  | t :: ts, a, r, hr => by
    unfold addLoop at hr
    split at hr
    · rename_i hk
      obtain ⟨new, h⟩ := addLoop_props cfg l v2 ts a r hr
      refine ⟨new, h.kept, h.sub.cons _, h.fresh, h.others, h.mono, fun hc u hu => ?_, h.weight⟩
      rcases List.mem_cons.1 hu with rfl | hu
      · exact h.mono _ hk
      · exact h.all hc u hu
    · rename_i hk
      split at hr
      · obtain ⟨new, h⟩ := addLoop_props cfg l v2 ts (push a t) r hr
        have old : ∀ {id}, id ≠ t.id → (push a t).idx id = a.idx id := fun he => upd_other _ _ _ _ he
        have new_ne : ∀ u ∈ new, u.id ≠ t.id := fun u hu he => by
          have := h.fresh u hu
          simp [push, he] at this
        refine ⟨t :: new, by simpa [push] using h.kept, h.sub.cons_cons _, fun u hu => ?_, fun id hid => ?_,
          fun id hid => h.mono id ?_, fun hc u hu => ?_, by rw [h.weight]; simp only [push, sumW_cons]; omega⟩
        · rcases List.mem_cons.1 hu with rfl | hu
          · simpa using hk
          · rw [← old (new_ne u hu)]; exact h.fresh u hu
        · simp only [List.map_cons, List.mem_cons, not_or] at hid
          rw [h.others id hid.2, old hid.1]
        · by_cases he : id = t.id
          · simp [push, he]
          · rwa [old he]
        · rcases List.mem_cons.1 hu with rfl | hu
          · exact h.mono _ (by simp [push])
          · exact h.all hc u hu
      · subst hr
        exact ⟨[], (List.append_nil _).symm, List.nil_sublist _, nofun, fun _ _ => rfl, fun _ h => h, nofun, rfl⟩

theorem delIds_apply (f : Nat → Option Nat) : ∀ (ts : List Txn) (id : Nat),
    delIds f ts id = if id ∈ ts.map (·.id) then none else f id
  | [], id => by simp [delIds]
  | t :: ts, id => by
    rw [delIds, delIds_apply _ ts id]
    by_cases h : id = t.id <;> simp [h]

theorem checkTxnSet_eq (cfg : Cfg) (p : Pool) (v2 : Bool) : ∀ (set : List Txn) (ms : MidState),
    checkTxnSet cfg p v2 ms set =
      if seqValid cfg p.led v2 ms set = true then some (set.all fun t => (p.indices t.id).isSome) else none
  | [], ms => by simp [checkTxnSet, seqValid]
  | t :: ts, ms => by
    rw [checkTxnSet, seqValid, checkTxnSet_eq cfg p v2 ts]
    by_cases hv : txValid cfg p.led ms v2 t = true
    · by_cases hs : seqValid cfg p.led v2 (applyTx ms t) ts = true <;> simp [hv, hs]
    · simp [hv]

/-- the slice a submission appends to, and the other one -/
def own (v2 : Bool) (p : Pool) : List Txn := if v2 then p.v2txns else p.txns
def other (v2 : Bool) (p : Pool) : List Txn := if v2 then p.txns else p.v2txns

theorem idxOK_iff_accIdx (v2 : Bool) (p : Pool) (a : Acc) (hk : a.kept = own v2 p) (hi : a.idx = p.indices) :
    IdxOK p ↔ AccIdx (other v2 p) a := by
  obtain ⟨ms, idx, w, kept⟩ := a
  subst hk hi
  cases v2
  · have hmem : ∀ id, id ∈ poolIds p ↔ id ∈ (p.v2txns ++ p.txns).map (·.id) := by simp [poolIds, or_comm]
    exact ⟨fun h => ⟨h.v2, h.v1, fun id hid => (hmem id).1 (h.mem id hid)⟩,
      fun h => ⟨h.kep, h.oth, fun id hid => (hmem id).2 (h.mem id hid)⟩⟩
  · exact ⟨fun h => ⟨h.v1, h.v2, h.mem⟩, fun h => ⟨h.oth, h.kep, h.mem⟩⟩

/-- outcome of a submission, for a pool whose mid-state is present -/
inductive AddOutcome (cfg : Cfg) (v2 : Bool) (p : Pool) (set : List Txn) : Pool × Res → Prop
  | invalid : seqValid cfg p.led v2 MidState.empty set = false → AddOutcome cfg v2 p set (p, .err)
  | known : seqValid cfg p.led v2 MidState.empty set = true → (∀ t ∈ set, (p.indices t.id).isSome) →
      AddOutcome cfg v2 p set (p, .known)
  | conflict (p' : Pool) : seqValid cfg p.led v2 MidState.empty set = true →
      (¬ ∀ t ∈ set, (p.indices t.id).isSome) →
      p'.txns = p.txns → p'.v2txns = p.v2txns → p'.indices = p.indices → p'.weight = p.weight →
      p'.led = p.led → p'.lastReverted = p.lastReverted → p'.lastRevertedV2 = p.lastRevertedV2 →
      p'.ms = none → AddOutcome cfg v2 p set (p', .err)
  | added (p' : Pool) (new : List Txn) : seqValid cfg p.led v2 MidState.empty set = true →
      own v2 p' = own v2 p ++ new → other v2 p' = other v2 p → new ≠ [] → new.Sublist set →
      (∀ t ∈ new, p.indices t.id = none) →
      (∀ id, id ∉ new.map (·.id) → p'.indices id = p.indices id) →
      (∀ t ∈ set, (p'.indices t.id).isSome) →
      p'.weight = p.weight + sumW new → p'.led = p.led →
      p'.lastReverted = p.lastReverted → p'.lastRevertedV2 = p.lastRevertedV2 →
      p'.ms.isSome → (IdxOK p → IdxOK p') → AddOutcome cfg v2 p set (p', .ok)

theorem setOwn_own (v2 : Bool) (p : Pool) (l : List Txn) : own v2 (setOwn v2 p l) = l := by
  cases v2 <;> rfl
theorem setOwn_other (v2 : Bool) (p : Pool) (l : List Txn) : other v2 (setOwn v2 p l) = other v2 p := by
  cases v2 <;> rfl

theorem setOwn_self (v2 : Bool) (p : Pool) : setOwn v2 p (own v2 p) = p := by
  cases v2 <;> rfl

theorem setOwn_rest (v2 : Bool) (p : Pool) (l : List Txn) :
    (setOwn v2 p l).led = p.led ∧ (setOwn v2 p l).lastReverted = p.lastReverted ∧
    (setOwn v2 p l).lastRevertedV2 = p.lastRevertedV2 := by
  cases v2 <;> exact ⟨rfl, rfl, rfl⟩

theorem addSet_outcome (cfg : Cfg) (v2 : Bool) (p : Pool) (set : List Txn) (hms : p.ms.isSome = true) :
    AddOutcome cfg v2 p set (addSet cfg v2 p set) := by
  unfold addSet
  rw [checkTxnSet_eq]
  cases hv : seqValid cfg p.led v2 MidState.empty set
  · exact .invalid hv
  simp only [if_true]
  by_cases hall : ∀ t ∈ set, (p.indices t.id).isSome
  · rw [List.all_eq_true.2 hall]
    exact .known hv hall
  rw [Bool.eq_false_iff.2 (mt List.all_eq_true.1 hall)]
  have hnot := hall
  obtain ⟨ms, hmse⟩ := Option.isSome_iff_exists.1 hms
  simp only [hmse]
  rw [show (if v2 = true then p.v2txns else p.txns) = own v2 p from rfl]
  obtain ⟨new, h⟩ := addLoop_props cfg p.led v2 set ⟨ms, p.indices, p.weight, own v2 p⟩ _ rfl
  have hacc := fun hi : IdxOK p =>
    addLoop_induct (cfg := cfg) (l := p.led) (v2 := v2) set _ (fun _ t _ hn _ h => AccIdx.push h t hn)
      ((idxOK_iff_accIdx v2 p ⟨ms, p.indices, p.weight, own v2 p⟩ rfl rfl).1 hi)
  generalize addLoop cfg p.led v2 ⟨ms, p.indices, p.weight, own v2 p⟩ set = r at h hacc
  obtain ⟨a, b⟩ := r
  have hkept : a.kept = own v2 p ++ new := h.kept
  cases b
  · -- conflict: the slice, the index map and the weight are rolled back
    have hidx : delIds a.idx new = p.indices := by
      funext id
      rw [delIds_apply]
      split
      · rename_i hm
        obtain ⟨t, ht, rfl⟩ := List.mem_map.1 hm
        exact (h.fresh t ht).symm
      · exact h.others id ‹_›
    simp only [hkept, List.take_left, List.drop_left, hidx, setOwn_self]
    exact .conflict _ hv hnot rfl rfl rfl rfl rfl rfl rfl rfl
  · have hne : new ≠ [] := by
      rintro rfl
      exact hnot fun t ht => (show a.idx t.id = p.indices t.id from h.others t.id (by simp)) ▸ h.all rfl t ht
    obtain ⟨e1, e2, e3⟩ := setOwn_rest v2 p a.kept
    refine .added _ new hv ((setOwn_own v2 p a.kept).trans hkept) (setOwn_other v2 p a.kept) hne h.sub h.fresh h.others
      (h.all rfl) h.weight
      e1 e2 e3 rfl fun hi => ?_
    refine (idxOK_iff_accIdx v2 _ a ?_ rfl).2 ?_
    · exact (setOwn_own v2 p a.kept).symm
    · exact (setOwn_other v2 p a.kept).symm ▸ hacc hi

theorem IdxOK.isSome_iff {p : Pool} (h : IdxOK p) (id : Nat) : (p.indices id).isSome = true ↔ id ∈ poolIds p := by
  refine ⟨h.mem id, fun hm => ?_⟩
  simp only [poolIds, List.map_append, List.mem_append, List.mem_map] at hm
  rcases hm with ⟨t, ht, rfl⟩ | ⟨t, ht, rfl⟩
  · obtain ⟨i, hi⟩ := List.getElem?_of_mem ht
    simp [h.v1 i t hi]
  · obtain ⟨i, hi⟩ := List.getElem?_of_mem ht
    simp [h.v2 i t hi]

theorem reorg_ms (p : Pool) (rev app : List Blk) (flags : List Bool) : (reorg p rev app flags).ms = none := by
  unfold reorg reorgEnd
  split <;> rfl

theorem AddOutcome.inv {cfg v2 p set r} (h : AddOutcome cfg v2 p set r) (hi : IdxOK p) : Inv r.1 := by
  cases h with
  | invalid _ | known _ _ => exact fun _ => hi
  | conflict p' _ _ _ _ _ _ _ _ _ hms => intro hc; rw [hms] at hc; cases hc
  | added p' new _ _ _ _ _ _ _ _ _ _ _ _ _ hk => exact fun _ => hk hi

/-- a step leaves no mid-state (a reorg), the re-validated pool, or the outcome of a submission
to it: what holds of the last two whenever the mid-state is present is kept by every step -/
theorem step_keeps {cfg : Cfg} {X : Pool → Prop} (p : Pool) (op : Op) (hre : X (revalidate cfg p))
    (hadd : ∀ v2 set r, AddOutcome cfg v2 (revalidate cfg p) set r → r.1.ms.isSome = true → X r.1) :
    (step cfg p op).ms.isSome = true → X (step cfg p op) := by
  cases op with
  | reorg rev app flags => intro hc; simp [step, reorg_ms] at hc
  | addV1 set => exact hadd false set _ (addSet_outcome cfg false _ set (revalidate_ms cfg p))
  | addV2 path set =>
    simp only [step, addV2PoolTransactions]
    cases rebase cfg set path with
    | none => exact fun _ => hre
    | some set' => exact hadd true set' _ (addSet_outcome cfg true _ set' (revalidate_ms cfg p))
  | query => exact fun _ => hre

theorem step_inv (cfg : Cfg) (p : Pool) (h : Inv p) (op : Op) : Inv (step cfg p op) :=
  step_keeps p op (revalidate_idxOK cfg p h) fun _ _ _ ho => ho.inv (revalidate_idxOK cfg p h)

theorem run_inv (cfg : Cfg) : ∀ (ops : List Op) (p : Pool), Inv p → Inv (run cfg p ops) :=
  fun ops _ h => List.foldlRecOn ops (step cfg) h fun p h op _ => step_inv cfg p h op

theorem init_inv (l : Ledger) : Inv (Pool.init l) := by
  intro h; simp [Pool.init] at h

end Verif.Pool
