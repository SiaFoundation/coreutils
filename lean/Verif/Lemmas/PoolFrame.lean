/-
Frame lemmas for the pool (C05 retention): what `Ledger.apply` / `Ledger.revert` and
`confirmInp` / `unconfirmInp` do away from a block's elements, and from that: a block that touches
no input of any pooled transaction leaves the re-validated pool exactly as it was.  Core only.
-/
import Verif.Lemmas.PoolValid

namespace Verif.Pool

theorem lookup_filter_key (e : Nat) (pred : Nat × Nat → Bool) : ∀ (xs : List (Nat × Nat)),
    (∀ p ∈ xs, p.1 = e → pred p = true) → (xs.filter pred).lookup e = xs.lookup e
  | [], _ => rfl
  | (k, v) :: xs, h => by
    have ih := lookup_filter_key e pred xs fun p hp => h p (List.mem_cons_of_mem _ hp)
    rw [List.filter_cons]
    split
    · rw [List.lookup_cons, List.lookup_cons, ih]
    · rename_i hp
      rw [List.lookup_cons, ih, beq_false_of_ne fun he => hp (h _ List.mem_cons_self he.symm)]

theorem lookup_eq_none_of_not_mem_ids {e : Nat} {c : List (Nat × Nat)} (h : e ∉ ids c) : c.lookup e = none :=
  List.lookup_eq_none_iff.2 fun p hp => bne_iff_ne.2 fun he => h (List.mem_map.2 ⟨p, hp, he.symm⟩)

theorem lookup_some_mem {e v : Nat} {xs : List (Nat × Nat)} (h : xs.lookup e = some v) : (e, v) ∈ xs := by
  obtain ⟨l₁, l₂, rfl, _⟩ := List.lookup_eq_some_iff.1 h
  exact List.mem_append_right _ List.mem_cons_self

theorem lookup_update (xs add del : List (Nat × Nat)) {e : Nat} (h : e ∉ ids del) :
    ((xs ++ add).filter fun p => !(ids del).contains p.1).lookup e = (xs.lookup e).or (add.lookup e) := by
  rw [lookup_filter_key, List.lookup_append]
  intro p _ hp
  simpa [hp] using h

theorem leafOf_apply_of_not_spent (l : Ledger) (b : Blk) {e : Nat} (h : e ∉ ids b.spent) :
    (l.apply b).leafOf e = (l.leafOf e).or (b.created.lookup e) :=
  lookup_update _ _ _ h

theorem leafOf_revert_of_not_created (l : Ledger) (b : Blk) {e : Nat} (h : e ∉ ids b.created) :
    (l.revert b).leafOf e = (l.leafOf e).or (b.spent.lookup e) :=
  lookup_update _ _ _ h

theorem leafOf_apply_kept (l : Ledger) (b : Blk) {e lf : Nat} (h : l.leafOf e = some lf) (hs : e ∉ ids b.spent) :
    (l.apply b).leafOf e = some lf := by
  rw [leafOf_apply_of_not_spent l b hs, h]; rfl

theorem leafOf_apply_created (l : Ledger) (b : Blk) {e lf : Nat} (hn : l.leafOf e = none)
    (hc : b.created.lookup e = some lf) (hs : e ∉ ids b.spent) : (l.apply b).leafOf e = some lf := by
  rw [leafOf_apply_of_not_spent l b hs, hn]; exact hc

theorem leafOf_revert_kept (l : Ledger) (b : Blk) {e lf : Nat} (h : l.leafOf e = some lf) (hc : e ∉ ids b.created) :
    (l.revert b).leafOf e = some lf := by
  rw [leafOf_revert_of_not_created l b hc, h]; rfl

theorem inputsOk_ledger (l l' : Ledger) (c : List Nat) (v2 : Bool) : ∀ (is : List Inp) (s : List Nat),
    (∀ i ∈ is, l'.leafOf i.elem = l.leafOf i.elem) → inputsOk l' c v2 s is = inputsOk l c v2 s is
  | [], _, _ => rfl
  | i :: is, s, h => by
    simp only [inputsOk, inpOk, inpRes, h i List.mem_cons_self,
      inputsOk_ledger l l' c v2 is _ fun j hj => h j (List.mem_cons_of_mem _ hj)]

/-- the tip moved without crossing a rule boundary that matters to the pool -/
structure SameRules (cfg : Cfg) (l l' : Ledger) : Prop where
  era : eraOf cfg l'.height = eraOf cfg l.height
  h1 : heightOk cfg l' false = heightOk cfg l false
  h2 : heightOk cfg l' true = heightOk cfg l true

theorem txValid_ledger (cfg : Cfg) (l l' : Ledger) (hr : SameRules cfg l l') (ms : MidState) (v2 : Bool) (t : Txn)
    (h : ∀ i ∈ t.inputs, l'.leafOf i.elem = l.leafOf i.elem) :
    txValid cfg l' ms v2 t = txValid cfg l ms v2 t := by
  unfold txValid
  rw [inputsOk_ledger l l' _ v2 t.inputs _ h, hr.era]
  cases v2
  · rw [hr.h1]
  · rw [hr.h2]

theorem seqValid_ledger (cfg : Cfg) (l l' : Ledger) (hr : SameRules cfg l l') (v2 : Bool) : ∀ (ts : List Txn) (ms : MidState),
    (∀ t ∈ ts, ∀ i ∈ t.inputs, l'.leafOf i.elem = l.leafOf i.elem) →
    seqValid cfg l' v2 ms ts = seqValid cfg l v2 ms ts
  | [], _, _ => rfl
  | t :: ts, ms, h => by
    rw [seqValid, seqValid, txValid_ledger cfg l l' hr ms v2 t (h t List.mem_cons_self),
      seqValid_ledger cfg l l' hr v2 ts _ fun u hu => h u (List.mem_cons_of_mem _ hu)]

theorem push_idx_isSome (a : Acc) (t : Txn) (id : Nat) :
    ((push a t).idx id).isSome ↔ id = t.id ∨ (a.idx id).isSome := by
  by_cases h : id = t.id <;> simp [push, upd, h]

theorem refill_keeps_all (cfg : Cfg) (l : Ledger) (v2 : Bool) : ∀ (ts : List Txn) (a : Acc),
    seqValid cfg l v2 a.ms ts = true → (ts.map (·.id)).Nodup → (∀ t ∈ ts, a.idx t.id = none) →
    (refill cfg l v2 a ts).kept = a.kept ++ ts ∧ (refill cfg l v2 a ts).ms = msOf a.ms ts ∧
    ∀ id, ((refill cfg l v2 a ts).idx id).isSome ↔ (a.idx id).isSome ∨ id ∈ ts.map (·.id)
  | [], a, _, _, _ => by simp [refill, msOf]
  | t :: ts, a, hv, hnd, hn => by
    simp only [seqValid, Bool.and_eq_true] at hv
    simp only [List.map_cons, List.nodup_cons] at hnd
    have hs : refillStep cfg l v2 a t = push a t := by
      simp [refillStep, hn t List.mem_cons_self, hv.1]
    have hn' : ∀ u ∈ ts, (push a t).idx u.id = none := fun u hu => by
      have hne : u.id ≠ t.id := fun e => hnd.1 (e ▸ List.mem_map_of_mem hu)
      simpa [push, upd_other _ _ _ _ hne] using hn u (List.mem_cons_of_mem _ hu)
    obtain ⟨h1, h2, h3⟩ := refill_keeps_all cfg l v2 ts (push a t) hv.2 hnd.2 hn'
    rw [refill, hs]
    refine ⟨by simpa [push] using h1, h2, fun id => ?_⟩
    rw [h3, push_idx_isSome, List.map_cons, List.mem_cons, or_assoc, or_left_comm]

theorem refill_skips (cfg : Cfg) (l : Ledger) (v2 : Bool) (ws : List Txn) (a : Acc)
    (h : ∀ w ∈ ws, (a.idx w.id).isSome = true ∨ txValid cfg l a.ms v2 w = false) :
    refill cfg l v2 a ws = a :=
  refill_induct (P := (· = a)) ws a (fun _ w hw hn hv e => by
    subst e
    rcases h w hw with h1 | h1
    · simp [hn] at h1
    · simp [hv] at h1) rfl

theorem refill_append (cfg : Cfg) (l : Ledger) (v2 : Bool) : ∀ (xs ys : List Txn) (a : Acc),
    refill cfg l v2 a (xs ++ ys) = refill cfg l v2 (refill cfg l v2 a xs) ys
  | [], _, _ => rfl
  | _ :: xs, ys, _ => refill_append cfg l v2 xs ys _

theorem nodup_of_index (f : Nat → Option Nat) (ts : List Txn) (h : ∀ i t, ts[i]? = some t → f t.id = some i) :
    (ts.map (·.id)).Nodup := by
  rw [List.Nodup, List.pairwise_iff_getElem]
  intro i j hi hj hij e
  rw [List.length_map] at hi hj
  simp only [List.getElem_map] at e
  have h1 := h i _ (List.getElem?_eq_getElem hi)
  rw [e, h j _ (List.getElem?_eq_getElem hj)] at h1
  exact Nat.ne_of_lt hij (Option.some.inj h1).symm

theorem IdxOK.nodup1 {p : Pool} (h : IdxOK p) : (p.txns.map (·.id)).Nodup :=
  nodup_of_index p.indices p.txns h.v1

theorem IdxOK.nodup2 {p : Pool} (h : IdxOK p) : (p.v2txns.map (·.id)).Nodup :=
  nodup_of_index p.indices p.v2txns h.v2

theorem confirmInp_of_leaf {c : List (Nat × Nat)} {i : Inp} {lf : Nat} (h : i.leaf = some lf) : confirmInp c i = i := by
  simp [confirmInp, h]

theorem confirmInp_of_lookup_none {c : List (Nat × Nat)} {i : Inp} (h : c.lookup i.elem = none) : confirmInp c i = i := by
  unfold confirmInp
  cases i.leaf <;> simp [h]

theorem confirmInp_of_lookup_some {c : List (Nat × Nat)} {i : Inp} {lf : Nat} (hl : i.leaf = none)
    (h : c.lookup i.elem = some lf) : confirmInp c i = ⟨i.elem, some lf, false⟩ := by
  simp [confirmInp, hl, h]

theorem confirmInp_leaf {c : List (Nat × Nat)} {i : Inp} {lf : Nat} (h : (confirmInp c i).leaf = some lf) :
    i.leaf = some lf ∨ (i.leaf = none ∧ c.lookup i.elem = some lf) := by
  cases hl : i.leaf with
  | some lf' => rw [confirmInp_of_leaf hl, hl] at h; exact Or.inl h
  | none =>
    cases hc : c.lookup i.elem with
    | none => rw [confirmInp_of_lookup_none hc, hl] at h; cases h
    | some lf' => rw [confirmInp_of_lookup_some hl hc] at h; exact Or.inr ⟨rfl, h⟩

theorem unconfirmInp_id_of_not_created (c : List (Nat × Nat)) (i : Inp) (h : i.elem ∉ ids c) : unconfirmInp c i = i := by
  unfold unconfirmInp
  cases i.leaf with
  | none => rfl
  | some _ => exact if_neg (by simpa using h)

theorem mapInputs_id (t : Txn) (f : Inp → Inp) (h : ∀ i ∈ t.inputs, f i = i) : mapInputs f t = t := by
  unfold mapInputs
  rw [List.map_congr_left h, List.map_id']

theorem revalidate_of_none {cfg : Cfg} {p : Pool} (h1 : p.ms = none) (h2 : p.weight < cfg.maxWeight * 10) :
    revalidate cfg p = rebuild cfg p := by
  unfold revalidate
  rw [h1, if_neg (by simp), if_neg (Nat.not_le.2 h2)]

theorem rebuild_keeps (cfg : Cfg) (r : Pool)
    (hs1 : seqValid cfg r.led false MidState.empty r.txns = true)
    (hs2 : seqValid cfg r.led true (msOf MidState.empty r.txns) r.v2txns = true)
    (hn1 : (r.txns.map (·.id)).Nodup) (hn2 : (r.v2txns.map (·.id)).Nodup)
    (hne : ∀ t ∈ r.txns, ∀ u ∈ r.v2txns, t.id ≠ u.id)
    (hre1 : ∀ w ∈ r.lastReverted, w.id ∈ r.txns.map (·.id) ∨
      txValid cfg r.led (msOf MidState.empty r.txns) false w = false)
    (hre2 : ∀ w ∈ r.lastRevertedV2, w.id ∈ (r.txns ++ r.v2txns).map (·.id) ∨
      txValid cfg r.led (msOf MidState.empty (r.txns ++ r.v2txns)) true w = false) :
    (rebuild cfg r).txns = r.txns ∧ (rebuild cfg r).v2txns = r.v2txns := by
  show (refill cfg r.led false _ (r.txns ++ r.lastReverted)).kept = r.txns ∧
    (refill cfg r.led true _ (r.v2txns ++ r.lastRevertedV2)).kept = r.v2txns
  obtain ⟨k1, k2, k3⟩ := refill_keeps_all cfg r.led false r.txns ⟨MidState.empty, fun _ => none, 0, []⟩
    hs1 hn1 (fun _ _ => rfl)
  rw [refill_append, refill_skips cfg r.led false r.lastReverted _ fun w hw =>
    (hre1 w hw).imp (fun h => (k3 _).2 (Or.inr h)) fun h => k2 ▸ h]
  obtain ⟨m1, m2, m3⟩ := refill_keeps_all cfg r.led true r.v2txns
    { refill cfg r.led false ⟨MidState.empty, fun _ => none, 0, []⟩ r.txns with kept := [] }
    (k2 ▸ hs2) hn2 fun u hu => Option.not_isSome_iff_eq_none.1 fun h => by
      obtain ⟨t, ht, e⟩ := List.mem_map.1 (((k3 _).1 h).resolve_left (fun h => nomatch h))
      exact hne t ht u hu e
  rw [refill_append, refill_skips cfg r.led true r.lastRevertedV2 _ fun w hw => (hre2 w hw).imp
    (fun h => (m3 _).2 ((List.mem_append.1 (List.map_append ▸ h)).imp_left fun h => (k3 _).2 (Or.inr h)))
    fun h => by rw [m2, k2, ← msOf_append]; exact h]
  exact ⟨k1, m1⟩

/-- **frame**: a block that touches no input of any pooled transaction, crosses no rule boundary,
and after which no remembered reverted transaction becomes acceptable, leaves the re-validated pool
exactly as it was (same transactions, same order), provided the pool is not full. -/
theorem apply_frame (cfg : Cfg) (S : Nat → Bool × List Nat × List Nat) (q : Pool) (b : Blk) (flags : List Bool)
    (hv : Valid cfg q) (hi : IdxOK q) (hc : PoolConf S q)
    (hfull : q.weight < cfg.maxWeight * 10)
    (hun : ∀ t ∈ q.txns ++ q.v2txns, ∀ i ∈ t.inputs, i.elem ∉ ids b.spent ∧ i.elem ∉ ids b.created)
    (hleaf : ∀ t ∈ q.v2txns, proofsOk b.leavesAfter t = true)
    (hr : SameRules cfg q.led (q.led.apply b))
    (hre1 : ∀ w ∈ q.lastReverted, (q.indices w.id).isSome = true ∨
      txValid cfg (q.led.apply b) (msOf MidState.empty q.txns) false w = false)
    (hre2 : ∀ w ∈ zipBad q.lastRevertedV2 flags, (q.indices w.id).isSome = true ∨
      txValid cfg (q.led.apply b) (msOf MidState.empty (q.txns ++ q.v2txns)) true w = false) :
    (revalidate cfg (reorg q [] [b] flags)).txns = q.txns ∧
    (revalidate cfg (reorg q [] [b] flags)).v2txns = q.v2txns := by
  -- the v2 slice passes `applyPoolUpdate` unchanged
  have hv2 : (q.v2txns.map (mapInputs (confirmInp b.created))).filter (proofsOk b.leavesAfter) = q.v2txns := by
    rw [List.map_congr_left fun t ht => mapInputs_id t _ fun i hi =>
      confirmInp_of_lookup_none (lookup_eq_none_of_not_mem_ids (hun t (List.mem_append_right _ ht) i hi).2), List.map_id']
    exact List.filter_eq_self.2 hleaf
  have hre : reorg q [] [b] flags =
      { q with led := q.led.apply b, ms := none, lastRevertedV2 := zipBad q.lastRevertedV2 flags } :=
    congrArg (fun v => { q with
      v2txns := v, led := q.led.apply b, ms := none, lastRevertedV2 := zipBad q.lastRevertedV2 flags }) hv2
  -- both slices are as valid on the new ledger as on the old
  have hled : ∀ t ∈ q.txns ++ q.v2txns, ∀ i ∈ t.inputs, (q.led.apply b).leafOf i.elem = q.led.leafOf i.elem :=
    fun t ht i hi => by
      rw [leafOf_apply_of_not_spent _ b (hun t ht i hi).1, lookup_eq_none_of_not_mem_ids (hun t ht i hi).2, Option.or_none]
  have hs1 := hv.v1
  have hs2 := hv.v2
  rw [← seqValid_ledger cfg _ _ hr _ _ _ fun t ht => hled t (List.mem_append_left _ ht)] at hs1
  rw [← seqValid_ledger cfg _ _ hr _ _ _ fun t ht => hled t (List.mem_append_right _ ht)] at hs2
  rw [revalidate_of_none (reorg_ms q [] [b] flags) hfull, hre]
  refine rebuild_keeps cfg _ hs1 hs2 hi.nodup1 hi.nodup2 (fun t ht u hu => (hc.t1 t ht).kind_ne (hc.t2 u hu))
    (fun w hw => (hre1 w hw).imp_left fun h => ?_) fun w hw => (hre2 w hw).imp_left (hi.mem w.id)
  obtain ⟨u, hu, e⟩ := List.mem_map.1 (hi.mem w.id h)
  rcases List.mem_append.1 hu with hu | hu
  · exact List.mem_map.2 ⟨u, hu, e⟩
  · exact absurd e.symm ((hc.r1 w hw).kind_ne (hc.t2 u hu))

end Verif.Pool
