/-
Invariants of the lock model: the state is always the serial execution of the completed
segments followed by the executed prefix of the holder's segment; program order is preserved.
-/
import Verif.Model.Mutex

namespace Verif.Mutex
variable {σ : Type}

def held (s : Sys σ) : Seg σ := match s.hold with | some (_, ex, _) => ex | none => []

def StInv (x0 : σ) (s : Sys σ) : Prop := s.st = (held s).foldl app (serial s.done x0)

theorem serial_append (d : List (Nat × Seg σ)) (e : Nat × Seg σ) (x : σ) :
    serial (d ++ [e]) x = e.2.foldl app (serial d x) := by
  simp [serial, List.foldl_append]

theorem step_stInv (x0 : σ) (s : Sys σ) (t : Nat) (h : StInv x0 s) : StInv x0 (step s t) := by
  unfold StInv at *
  fun_cases step s t with
  | case2 | case4 | case6 => exact h
  | case1 hh => simpa [held, hh] using h
  | case3 _ hh => simpa [held, hh, serial_append] using h
  | case5 _ _ _ hh => simp [held, hh, app, h]

theorem run_invariant {P : Sys σ → Prop} (hstep : ∀ s t, P s → P (step s t)) (sched : List Nat) :
    ∀ s, P s → P (run s sched) := by
  induction sched with
  | nil => exact fun _ h => h
  | cons t ts ih => exact fun s h => ih _ (hstep s t h)

theorem run_stInv (x0 : σ) (sched : List Nat) (s : Sys σ) (h : StInv x0 s) : StInv x0 (run s sched) :=
  run_invariant (step_stInv x0) sched s h

theorem init_stInv (x0 : σ) (progs : List (List (Seg σ))) : StInv x0 (init x0 progs) := by
  simp [StInv, init, held, serial]

theorem step_progOf (s : Sys σ) (u t : Nat) : progOf (step s u) t = progOf s t := by
  fun_cases step s u with
  | case2 | case4 | case6 => rfl
  | case1 hh seg more hr =>
    obtain ⟨hlt, hv⟩ := List.getElem?_eq_some_iff.mp hr
    by_cases e : u = t
    · subst e; simp [progOf, hh, hlt, hv]
    · simp [progOf, hh, e]
  | case3 ex hh => by_cases e : u = t <;> simp [progOf, hh, e, List.filter_append]
  | case5 ex a as hh => by_cases e : u = t <;> simp [progOf, hh, e]

theorem run_progOf (sched : List Nat) (s : Sys σ) (t : Nat) : progOf (run s sched) t = progOf s t :=
  run_invariant (P := (progOf · t = progOf s t)) (fun s' u h => (step_progOf s' u t).trans h) sched s rfl

theorem init_progOf (x0 : σ) (progs : List (List (Seg σ))) (t : Nat) :
    progOf (init x0 progs) t = (progs[t]?).getD [] := by
  simp [progOf, init]

/-- progress: unless every caller has finished and the lock is free, some caller can take a step
that changes the lock state — callers of a lock-disciplined object cannot deadlock on its lock -/
theorem progress (s : Sys σ) (h : quiescent s = false) : ∃ t, (step s t).hold ≠ s.hold := by
  cases hh : s.hold with
  | some v =>
    obtain ⟨hd, ex, rem⟩ := v
    exact ⟨hd, by cases rem <;> simp [step, hh]⟩
  | none =>
    obtain ⟨l, hl, hne⟩ : ∃ l ∈ s.rest, l.isEmpty = false := by simpa [quiescent, hh] using h
    obtain ⟨t, ht, hget⟩ := List.getElem_of_mem hl
    cases l with
    | nil => cases hne
    | cons seg more => exact ⟨t, by simp [step, hh, List.getElem?_eq_getElem ht, hget]⟩

end Verif.Mutex
