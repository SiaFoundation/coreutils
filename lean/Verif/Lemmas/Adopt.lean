/-
Liveness of `AddBlocks`: a batch that heads a fully valid chain sufficiently heavier than the tip
IS adopted — the complement of the safety theorems (the tip moves only to a heavier valid chain).
-/
import Verif.Lemmas.ChainKept

namespace Verif.Chain

/-- `applyTip` refuses a block only because its body failed validation -/
theorem applyTip_error_bodyOk {U m i} (h : applyTip U m i = .error .invalidBlock) : (U i).bodyOk = false := by
  revert h
  fun_cases applyTip U m i with
  | case1 | case2 | case4 | case5 => exact fun h => nomatch h
  | case3 _ _ _ _ hb => exact fun _ => by simpa using hb

/-- a list of attachable blocks whose bodies are all valid is applied completely -/
theorem applyAll_valid {U} : ∀ (l : List Nat) (m : Mgr), Inv U m → Attach U m m.tip l →
    (∀ x ∈ l, (U x).bodyOk = true) → (applyAll U l m).2 = none :=
  fun l m h ha hv => (applyAll_kept (inv_kept U) l m h ha).2.2.2.2.1 fun x hx => Or.inr (hv x hx)

/-- **`reorgTo` succeeds towards a stored block whose whole ancestry above genesis is valid** -/
theorem reorgTo_valid {U m} (h : Inv U m) {t : Nat} (ht : m.states t = true)
    (hv : ∀ k, k < (U t).height → (U (anc U k t)).bodyOk = true) :
    (reorgTo U m t).2 = none ∧ (reorgTo U m t).1.tip = t :=
  have ⟨_, _, r3, _, r5⟩ := reorgTo_run h ht
  have hnone := r5 fun k hk => Or.inr (hv k hk)
  ⟨hnone, r3 hnone⟩

/-- the decision after the loop, for a valid heavier chain -/
theorem maybeReorg_adopts {U m} (h : Inv U m) {cs : Nat} (hcs : m.states cs = true)
    (hv : ∀ k, k < (U cs).height → (U (anc U k cs)).bodyOk = true) (hh : heavier U cs m.tip = true) :
    (maybeReorg U m cs).2 = none ∧ (maybeReorg U m cs).1.tip = cs := by
  obtain ⟨r1, r2⟩ := reorgTo_valid h hcs hv
  unfold maybeReorg
  rw [if_pos hh]
  rcases hr : reorgTo U m cs with ⟨m1, e1⟩
  rw [hr] at r1 r2
  simp only at r1 r2
  subst r1
  simp only
  exact ⟨trivial, by simpa [Mgr.tip] using r2⟩

/-- a batch the loop of `AddBlocks` walks through without an error: a parent-linked run of
header-valid, non-future blocks on top of a block whose state is stored (or of the loop's state) -/
def GoodRun (U : Nat → Blk) (m : Mgr) : Nat → List Nat → Prop
  | _, [] => True
  | cs, b :: bs => ((U b).parent = cs ∨ m.states (U b).parent = true) ∧ (U b).hdrOk = true ∧
      (U b).future = false ∧ GoodRun U m b bs

theorem GoodRun.mono {U m m'} (hm : ∀ i, m.states i = true → m'.states i = true) :
    ∀ {cs l}, GoodRun U m cs l → GoodRun U m' cs l
  | _, [], _ => trivial
  | _, _ :: _, ⟨h1, h2, h3, h4⟩ => ⟨h1.imp id (hm _), h2, h3, GoodRun.mono hm h4⟩

/-- on a good run the loop reports no error, whatever is stored -/
theorem addLoop_noerr (U : Nat → Blk) (batch : List Nat) (m : Mgr) (cs : Nat) :
    GoodRun U m cs batch → (addBlocks.go U batch m cs).2.1 = none := by
  fun_induction addBlocks.go U batch m cs with
  | case1 => exact fun _ => rfl
  | case2 _ _ _ _ _ ih | case3 _ _ _ _ _ _ ih => exact fun hg => ih hg.2.2.2
  | case4 _ _ _ _ _ _ h3 =>
    intro hg
    rcases hg.1 with e | e
    · exact absurd e h3.1
    · simp [e] at h3
  | case5 _ _ _ _ _ _ _ h4 => exact fun hg => absurd h4 (by simp [hg.2.2.1])
  | case6 _ _ _ _ _ _ _ _ h5 => exact fun hg => absurd h5 (by simp [hg.2.1])
  | case7 b _ m _ _ _ _ _ _ ih =>
    exact fun hg => ih (GoodRun.mono (fun _ => upd_true_of_true b) hg.2.2.2)

/-- on a good run the loop returns no error and its `cs` is the last block of the batch: `addLoop_noerr`
with `addLoop_cs`, neither of which uses `hU` or the invariant -/
theorem addLoop_good {U} (hU : WFU U) : ∀ (batch : List Nat) (m : Mgr) (cs : Nat), Inv U m → m.states cs = true →
    GoodRun U m cs batch →
    (addBlocks.go U batch m cs).2.1 = none ∧ (addBlocks.go U batch m cs).2.2 = batch.getLastD cs :=
  fun batch m cs _ _ hg => ⟨addLoop_noerr U batch m cs hg, addLoop_cs U batch m cs (addLoop_noerr U batch m cs hg)⟩

/-- the loop of `AddBlocks` on a good run offered to a manager: what `maybeReorg` is then called on -/
theorem addLoop_good_run {U} (hU : WFU U) {m : Mgr} (h : Inv U m) {batch : List Nat} (hg : GoodRun U m m.tip batch) :
    ∃ m1, addBlocks.go U batch m m.tip = (m1, none, batch.getLastD m.tip) ∧ Inv U m1 ∧ m1.tip = m.tip ∧
      m1.states (batch.getLastD m.tip) = true := by
  obtain ⟨g1, g2⟩ := addLoop_good hU batch m m.tip h h.tip_state hg
  obtain ⟨j1, j2, _, _, j5, _⟩ := addLoop_spec hU batch m m.tip h h.tip_state
  rcases hgo : addBlocks.go U batch m m.tip with ⟨m1, e, cs⟩
  rw [hgo] at g1 g2 j1 j2 j5
  obtain rfl : e = none := g1
  obtain rfl : cs = _ := g2
  exact ⟨m1, rfl, j1, congrArg (·.headD 0) j2, j5⟩

end Verif.Chain
