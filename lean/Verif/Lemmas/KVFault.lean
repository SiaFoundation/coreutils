/-
Refinement under failures of the physical database: `CacheDB` over any backend that answers
failing calls like the specification (error, nothing changed) does so itself.
-/
import Verif.Model.KVFault
import Verif.Lemmas.KVCache

namespace Verif.KV

/-- `Refines` with the two failing calls among the operations: `B` answers them as `Spec.stepF`
does, with the error and an unchanged state. -/
structure RefinesF {σ} (B : BackendF σ) (Ri : σ → Spec → Prop) : Prop where
  step : ∀ x s, Ri x s → ∀ fop, (B.step x fop).2 = (s.stepF fop).2 ∧ Ri (B.step x fop).1 (s.stepF fop).1

theorem RefinesF.plain {σ} {B : BackendF σ} {Ri : σ → Spec → Prop} (hB : RefinesF B Ri) :
    Refines B.plain Ri := ⟨fun x s h op => hB.step x s h (.op op)⟩

theorem refinesF_mem : RefinesF memBackendF R := by
  constructor
  intro d s h fop
  cases fop with
  | op o => exact memdb_step_refines d s h o
  | failCreate b => exact ⟨rfl, h⟩
  | failFlush => exact ⟨rfl, h⟩

theorem refinesF_spec : RefinesF specBackendF Eq := by
  constructor
  intro x t h fop
  subst h
  exact ⟨rfl, rfl⟩

theorem cachedb_stepF_refines {σ} {B : BackendF σ} {Ri : σ → Spec → Prop} (hB : RefinesF B Ri)
    (c : CacheDB σ) (s : Spec) (h : Rc Ri c s) (names : List Nat)
    (hn : ∀ b, c.mem.has b = true → b ∈ names) (fop : FOp) :
    (CacheDB.stepF B names c fop).2 = (s.stepF fop).2 ∧
      Rc Ri (CacheDB.stepF B names c fop).1 (s.stepF fop).1 := by
  cases fop with
  | op o => exact cachedb_step_refines hB.plain c s h names hn o
  | failCreate b =>
    obtain ⟨t, ht⟩ := h
    obtain ⟨ho, hr⟩ := hB.step c.inner t ht.inner (.failCreate b)
    simp only [Spec.stepF] at ho hr ⊢
    simp only [CacheDB.stepF]
    rcases hstep : B.step c.inner (.failCreate b) with ⟨s', o⟩
    rw [hstep] at ho hr
    simp only at ho hr
    subst ho
    exact ⟨rfl, t, ht.replaceInner hr⟩
  | failFlush =>
    obtain ⟨t, ht⟩ := h
    obtain ⟨ho, hr⟩ := hB.step _ _ (ht.flush_inner hB.plain names hn) .failFlush
    exact ⟨ho, _, ht.flushed hr ht.dur rfl rfl⟩

/-- the plain operation that mentions the same bucket: for the bookkeeping of names a refused
creation counts like a creation -/
def FOp.asOp : FOp → Op
  | .op o => o
  | .failCreate b => .create b
  | .failFlush => .flush

theorem addNameF_eq (names : List Nat) (fop : FOp) : addNameF names fop = addName names fop.asOp := by
  cases fop <;> rfl

theorem cachedb_stepF_has {σ} (B : BackendF σ) (names : List Nat) (c : CacheDB σ) (fop : FOp)
    (b : Nat) (hb : (CacheDB.stepF B names c fop).1.mem.has b = true) :
    c.mem.has b = true ∨ fop.asOp.bucket? = some b := by
  cases fop with
  | op o => exact cachedb_step_has B.plain names c o b hb
  | failCreate b0 =>
    -- the same code as `CreateBucket` over a backend that answers the creation with the refusal
    exact cachedb_step_has ⟨fun s _ => B.step s (.failCreate b0)⟩ names c (.create b0) b hb
  | failFlush =>
    left
    simpa [CacheDB.stepF, MemDB.has, MemDB.cleared] using hb

/-- **compositional form under failures** -/
theorem refinesF_cache {σ} {B : BackendF σ} {Ri : σ → Spec → Prop} (hB : RefinesF B Ri) :
    RefinesF (cacheBackendF B) (RcN Ri) := by
  constructor
  intro cn s h fop
  obtain ⟨hn, hstep⟩ := RcN.step h fop.asOp
  show (CacheDB.stepF B (addNameF cn.2 fop) cn.1 fop).2 = _ ∧
    RcN Ri ((CacheDB.stepF B (addNameF cn.2 fop) cn.1 fop).1, addNameF cn.2 fop) _
  rw [addNameF_eq]
  have := cachedb_stepF_refines hB cn.1 s h.1 _ hn fop
  exact ⟨this.1, hstep _ _ this.2 (cachedb_stepF_has B _ cn.1 fop)⟩

end Verif.KV
