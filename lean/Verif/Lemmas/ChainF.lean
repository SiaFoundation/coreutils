/-
Lemmas for `Model/ChainF.lean`: erasure to the plain model, and the invariant
"supplement stored ⇒ complete state stored; every best-chain block has a complete state".
-/
import Verif.Model.ChainF
import Verif.Lemmas.Chain

namespace Verif.Chain

/-! ### erasure: forgetting `full` gives the plain model -/

theorem applyTipF_m (U : Nat → Blk) (s : MgrF) (i : Nat) :
    (applyTipF U s i).map (·.m) = applyTip U s.m i := by
  unfold applyTipF
  cases applyTip U s.m i <;> rfl

theorem applyAllF_m (U : Nat → Blk) (is : List Nat) : ∀ s : MgrF,
    ((applyAllF U is s).1.m, (applyAllF U is s).2) = applyAll U is s.m := by
  induction is with
  | nil => intro s; rfl
  | cons i is ih =>
    intro s
    unfold applyAllF applyAll
    rw [← applyTipF_m]
    cases applyTipF U s i with
    | error e => rfl
    | ok s' => exact ih s'

theorem reorgToF_m (U : Nat → Blk) (s : MgrF) (t : Nat) :
    ((reorgToF U s t).1.m, (reorgToF U s t).2) = reorgTo U s.m t := by
  unfold reorgToF reorgTo
  rcases reorgPath U s.m s.m.tip t none with e | ⟨rev, app⟩
  · rfl
  · dsimp only
    rcases revertN U rev.length s.m with ⟨m1, _ | e⟩
    · exact applyAllF_m U app ⟨m1, s.full⟩
    · rfl

theorem maybeReorgF_m (U : Nat → Blk) (s : MgrF) (cs : Nat) :
    ((maybeReorgF U s cs).1.m, (maybeReorgF U s cs).2) = maybeReorg U s.m cs := by
  unfold maybeReorgF maybeReorg
  rw [← reorgToF_m U s cs]
  split
  · rcases reorgToF U s cs with ⟨s1, _ | e⟩
    · rfl
    · have h2 := reorgToF_m U s1 s.m.tip
      cases e with
      | panic => rfl
      | missingBlock | invalidBlock | tooLong =>
        simp only [← h2]
        rcases reorgToF U s1 s.m.tip with ⟨s2, _ | e2⟩
        · rfl
        · cases e2 <;> rfl
  · rfl

theorem addLoopF_m (U : Nat → Blk) (bs : List Nat) (s : MgrF) (cs : Nat) :
    ((addLoopF U bs s cs).1.m, (addLoopF U bs s cs).2) = addBlocks.go U bs s.m cs := by
  fun_induction addLoopF U bs s cs with
  | case1 => rfl
  | case2 _ _ _ _ h1 ih => exact ih.trans (if_pos h1).symm
  | case3 _ _ _ _ h1 h2 ih => exact ih.trans ((if_neg h1).trans (if_pos h2)).symm
  | case4 _ _ _ _ h1 h2 h3 => exact ((if_neg h1).trans ((if_neg h2).trans (if_pos h3))).symm
  | case5 _ _ _ _ h1 h2 h3 h4 => exact ((if_neg h1).trans ((if_neg h2).trans ((if_neg h3).trans (if_pos h4)))).symm
  | case6 _ _ _ _ h1 h2 h3 h4 h5 =>
    exact ((if_neg h1).trans ((if_neg h2).trans ((if_neg h3).trans ((if_neg h4).trans (if_pos h5))))).symm
  | case7 _ _ _ _ h1 h2 h3 h4 h5 ih =>
    exact ih.trans ((if_neg h1).trans ((if_neg h2).trans ((if_neg h3).trans ((if_neg h4).trans (if_neg h5))))).symm

theorem addBlocksF_m (U : Nat → Blk) (s : MgrF) (batch : List Nat) :
    ((addBlocksF U s batch).1.m, (addBlocksF U s batch).2) = addBlocks U s.m batch := by
  cases batch with
  | nil => rfl
  | cons b bs =>
    unfold addBlocksF addBlocks
    simp only [← addLoopF_m U (b :: bs) s s.m.tip]
    rcases addLoopF U (b :: bs) s s.m.tip with ⟨s1, _ | e, cs⟩
    · exact maybeReorgF_m U s1 cs
    · rfl

theorem addV2LoopF_m (U : Nat → Blk) (bs : List Nat) (s : MgrF) :
    ((addV2LoopF U bs s).1.m, (addV2LoopF U bs s).2) = addValidatedV2.go U bs s.m := by
  fun_induction addV2LoopF U bs s with
  | case1 => rfl
  | case2 _ _ _ h => exact (if_pos h).symm
  | case3 _ _ _ h ih => exact ih.trans (if_neg h).symm

theorem addValidatedV2F_m (U : Nat → Blk) (s : MgrF) (batch : List Nat) (n : Nat) :
    ((addValidatedV2F U s batch n).1.m, (addValidatedV2F U s batch n).2) = addValidatedV2 U s.m batch n := by
  cases batch with
  | nil => rfl
  | cons b0 bs =>
    unfold addValidatedV2F addValidatedV2
    simp only [← addV2LoopF_m U (b0 :: bs) s]
    split
    · rfl
    · split
      · rfl
      · rcases addV2LoopF U (b0 :: bs) s with ⟨s1, _ | e⟩
        · exact maybeReorgF_m U s1 _
        · rfl

/-! ### the plain manager: what `block`, `applyTip`, `revertTip` and `revertN` do -/

theorem block_some_true {m : Mgr} {i : Nat} (h : m.block i = some true) : m.recs i = some ⟨true, true⟩ := by
  unfold Mgr.block at h
  cases hr : m.recs i with
  | none => simp [hr] at h
  | some r =>
    obtain ⟨b, sp⟩ := r
    simp only [hr] at h
    cases b <;> simp_all

theorem block_some_false {m : Mgr} {i : Nat} (h : m.block i = some false) : m.recs i = some ⟨true, false⟩ := by
  unfold Mgr.block at h
  cases hr : m.recs i with
  | none => simp [hr] at h
  | some r =>
    obtain ⟨b, sp⟩ := r
    simp only [hr] at h
    cases b <;> simp_all

theorem applyTip_ok {U m i m'} (h : applyTip U m i = .ok m') :
    (m.block i = some true ∧ m' = { m with best := i :: m.best }) ∨
    (m.block i = some false ∧
      m' = { m with states := upd m.states i true, recs := upd m.recs i (some ⟨true, true⟩), best := i :: m.best }) := by
  revert h
  fun_cases applyTip U m i with
  | case1 | case2 | case3 => exact fun h => nomatch h
  | case4 sp hb _ hs =>
    obtain rfl : sp = false := by simpa using hs
    rintro ⟨⟩
    exact .inr ⟨hb, rfl⟩
  | case5 sp hb _ hs =>
    obtain rfl : sp = true := by simpa using hs
    rintro ⟨⟩
    exact .inl ⟨hb, rfl⟩

theorem revertTip_best {U m m'} (h : revertTip U m = .ok m') :
    m'.recs = m.recs ∧ ∃ t, m.best = t :: m'.best := by
  revert h
  fun_cases revertTip U m with
  | case1 | case2 | case3 | case4 => exact fun h => nomatch h
  | case5 t _ hb =>
    rintro ⟨⟩
    exact ⟨rfl, t, hb⟩

theorem revertN_sub {U} (n : Nat) (m : Mgr) : (revertN U n m).1.recs = m.recs ∧
    ∀ i ∈ (revertN U n m).1.best, i ∈ m.best := by
  fun_induction revertN U n m with
  | case1 | case2 => exact ⟨rfl, fun _ h => h⟩
  | case3 _ _ _ hr ih =>
    obtain ⟨h1, t, h2⟩ := revertTip_best hr
    exact ⟨ih.1.trans h1, fun i hi => h2 ▸ List.mem_cons_of_mem _ (ih.2 i hi)⟩

/-! ### the invariant -/

/-- best-chain blocks are supplemented or pruned; a stored supplement comes with a complete
state; every best-chain block has a complete state -/
structure FInv (s : MgrF) : Prop where
  best : ∀ i ∈ s.m.best, s.m.recs i = some ⟨true, true⟩ ∨ s.m.recs i = some ⟨false, false⟩
  supp : ∀ i r, s.m.recs i = some r → r.supp = true → s.full i = true
  bestFull : ∀ i ∈ s.m.best, s.full i = true

theorem FInv.init : FInv MgrF.init := by
  refine ⟨?_, ?_, ?_⟩
  · intro i hi; simp [MgrF.init, Mgr.init] at hi; subst hi; left; simp [MgrF.init, Mgr.init]
  · intro i r hr _
    simp only [MgrF.init, Mgr.init] at hr ⊢
    by_cases h : i = 0
    · simp [h]
    · simp [h] at hr
  · intro i hi; simp [MgrF.init, Mgr.init] at hi; subst hi; simp [MgrF.init]

/-- the steps that write no state: reverting, pruning, applying a block that has its supplement -/
theorem FInv.frame {s s' : MgrF} (h : FInv s) (hf : s'.full = s.full)
    (hr : ∀ i, s'.m.recs i = s.m.recs i ∨ s'.m.recs i = some ⟨false, false⟩)
    (hb : ∀ i ∈ s'.m.best, i ∈ s.m.best ∨ s'.m.recs i = some ⟨true, true⟩) : FInv s' := by
  have hsupp : ∀ i r, s'.m.recs i = some r → r.supp = true → s'.full i = true := by
    intro i r hi hs
    rcases hr i with e | e
    · exact hf ▸ h.supp i r (e ▸ hi) hs
    · cases e ▸ hi; cases hs
  refine ⟨fun i hi => ?_, hsupp, fun i hi => ?_⟩
  · rcases hb i hi with hi | hi
    · exact (hr i).elim (fun e => e ▸ h.best i hi) .inr
    · exact .inl hi
  · rcases hb i hi with hi | hi
    · exact hf ▸ h.bestFull i hi
    · exact hsupp i _ hi rfl

/-- the steps that write a record with its state: the loops of `AddBlocks` and
`AddValidatedV2Blocks`, and `applyTip` when it validates -/
theorem FInv.store {s : MgrF} (h : FInv s) {b : Nat} {sp f : Bool} {st : Nat → Bool} {best : List Nat}
    (hf : sp = true → f = true) (hbest : ∀ i ∈ best, i ∈ s.m.best ∨ i = b) (hb : b ∈ best → sp = true) :
    FInv ⟨{ s.m with states := st, recs := upd s.m.recs b (some ⟨true, sp⟩), best := best }, upd s.full b f⟩ := by
  have hne : ∀ i ∈ best, i ≠ b → i ∈ s.m.best := fun i hi e => (hbest i hi).resolve_right e
  refine ⟨fun i hi => ?_, fun i r hr hs => ?_, fun i hi => ?_⟩ <;> dsimp only at *
  · by_cases e : i = b
    · rw [e, upd_same, hb (e ▸ hi)]; exact .inl rfl
    · rw [upd_other _ _ _ _ e]; exact h.best i (hne i hi e)
  · by_cases e : i = b
    · rw [e, upd_same] at hr ⊢
      cases Option.some.inj hr
      exact hf hs
    · rw [upd_other _ _ _ _ e] at hr ⊢; exact h.supp i r hr hs
  · by_cases e : i = b
    · rw [e, upd_same]; exact hf (hb (e ▸ hi))
    · rw [upd_other _ _ _ _ e]; exact h.bestFull i (hne i hi e)

theorem applyTipF_inv {U s i s'} (h : FInv s) (ha : applyTipF U s i = .ok s') : FInv s' := by
  unfold applyTipF at ha
  cases hp : applyTip U s.m i with
  | error e => simp [hp] at ha
  | ok m' =>
    simp only [hp, Except.ok.injEq] at ha
    subst ha
    rcases applyTip_ok hp with ⟨hb, rfl⟩ | ⟨hb, rfl⟩
    · rw [hb, if_neg (by simp)]
      refine h.frame rfl (fun _ => .inl rfl) fun j hj => ?_
      rcases List.mem_cons.mp hj with rfl | hj
      · exact .inr (block_some_true hb)
      · exact .inl hj
    · rw [if_pos hb]
      exact h.store (fun _ => rfl) (fun j hj => (List.mem_cons.mp hj).symm) (fun _ => rfl)

theorem applyAllF_inv {U} (is : List Nat) : ∀ {s}, FInv s → FInv (applyAllF U is s).1 := by
  induction is with
  | nil => intro s h; exact h
  | cons i is ih =>
    intro s h
    unfold applyAllF
    cases ha : applyTipF U s i with
    | error e => exact h
    | ok s' => exact ih (applyTipF_inv h ha)

theorem FInv.revertN {U s} (h : FInv s) (n : Nat) : FInv ⟨(revertN U n s.m).1, s.full⟩ :=
  h.frame rfl (fun i => .inl (congrFun (revertN_sub n s.m).1 i)) fun i hi => .inl ((revertN_sub n s.m).2 i hi)

theorem reorgToF_inv {U s} (h : FInv s) (t : Nat) : FInv (reorgToF U s t).1 := by
  unfold reorgToF
  rcases reorgPath U s.m s.m.tip t none with e | ⟨rev, app⟩
  · exact h
  · dsimp only
    have hr := h.revertN (U := U) rev.length
    rcases hrn : Verif.Chain.revertN U rev.length s.m with ⟨m1, _ | e⟩ <;> rw [hrn] at hr
    · exact applyAllF_inv app hr
    · exact hr

theorem maybeReorgF_inv {U s} (h : FInv s) (cs : Nat) : FInv (maybeReorgF U s cs).1 := by
  unfold maybeReorgF
  split
  · have h1 := reorgToF_inv (U := U) h cs
    rcases hF : reorgToF U s cs with ⟨s1, _ | e⟩ <;> rw [hF] at h1
    · exact ⟨h1.best, h1.supp, h1.bestFull⟩
    · have h2 := reorgToF_inv (U := U) h1 s.m.tip
      cases e with
      | panic => exact h1
      | missingBlock | invalidBlock | tooLong =>
        dsimp only
        rcases hF2 : reorgToF U s1 s.m.tip with ⟨s2, _ | e2⟩ <;> rw [hF2] at h2
        · exact h2
        · cases e2 <;> exact h2
  · exact h

/-- the `AddBlocks` loop passes over every block of the best chain (supplemented or pruned), so it
never stores one again -/
theorem FInv.known_of_mem {s : MgrF} (h : FInv s) {b : Nat} (hb : b ∈ s.m.best) : s.m.known b := by
  rcases h.best b hb with hr | hr
  · exact Mgr.known_of_stored hr
  · exact .inr (by simp [Mgr.header, Mgr.block, hr])

theorem addLoopF_inv {U} (bs : List Nat) (s : MgrF) (cs : Nat) : FInv s → FInv (addLoopF U bs s cs).1 := by
  fun_induction addLoopF U bs s cs with
  | case1 | case4 | case5 | case6 => exact id
  | case2 _ _ _ _ _ ih | case3 _ _ _ _ _ _ ih => exact ih
  | case7 _ _ _ _ h1 h2 _ _ _ ih =>
    exact fun h => ih (h.store (fun e => e) (fun _ hi => .inl hi) fun hb => ((h.known_of_mem hb).elim h1 h2).elim)

theorem addBlocksF_inv {U s} (h : FInv s) (batch : List Nat) : FInv (addBlocksF U s batch).1 := by
  cases batch with
  | nil => exact h
  | cons b bs =>
    unfold addBlocksF
    have hl := addLoopF_inv (U := U) (b :: bs) s s.m.tip h
    rcases hF : addLoopF U (b :: bs) s s.m.tip with ⟨s1, _ | e, cs⟩ <;> rw [hF] at hl
    · exact maybeReorgF_inv hl cs
    · exact hl

theorem addV2LoopF_inv {U} (bs : List Nat) (s : MgrF) : FInv s → FInv (addV2LoopF U bs s).1 := by
  fun_induction addV2LoopF U bs s with
  | case1 | case2 => exact id
  | case3 _ _ _ _ ih => exact fun h => ih (h.store (fun _ => rfl) (fun _ hi => .inl hi) fun _ => rfl)

theorem addValidatedV2F_inv {U s} (h : FInv s) (batch : List Nat) (n : Nat) :
    FInv (addValidatedV2F U s batch n).1 := by
  cases batch with
  | nil => exact h
  | cons b0 bs =>
    unfold addValidatedV2F
    dsimp only
    have hl := addV2LoopF_inv (U := U) (b0 :: bs) s h
    split
    · exact h
    · split
      · exact h
      · rcases hF : addV2LoopF U (b0 :: bs) s with ⟨s1, _ | e⟩ <;> rw [hF] at hl
        · exact maybeReorgF_inv hl _
        · exact hl

theorem pruneF_inv {s} (h : FInv s) (height : Nat) : FInv (pruneF s height) := by
  obtain ⟨h1, _, _, h4⟩ := prune_go_spec (min height (s.m.tipHeight + 1)) s.m
  exact h.frame rfl (fun i => (h4 i).imp_right (·.1)) fun i hi => .inl (h1 ▸ hi)

theorem stepF_inv {U s} (h : FInv s) (op : OpF) : FInv (stepF U s op) := by
  cases op with
  | add b => exact addBlocksF_inv h b
  | addV2 b n => exact addValidatedV2F_inv h b n
  | prune ht => exact pruneF_inv h ht

theorem runF_inv {U} (ops : List OpF) : ∀ {s}, FInv s → FInv (runF U s ops) := by
  induction ops with
  | nil => intro s h; exact h
  | cons op ops ih => intro s h; exact ih (stepF_inv h op)

/-- the plain model's operation on the erased state -/
def eraseOp (U : Nat → Blk) (m : Mgr) : OpF → Mgr
  | .add b => (addBlocks U m b).1
  | .addV2 b n => (addValidatedV2 U m b n).1
  | .prune h => prune m h

theorem stepF_m (U : Nat → Blk) (s : MgrF) (op : OpF) : (stepF U s op).m = eraseOp U s.m op := by
  cases op with
  | add b => exact congrArg Prod.fst (addBlocksF_m U s b)
  | addV2 b n => exact congrArg Prod.fst (addValidatedV2F_m U s b n)
  | prune h => rfl

theorem runF_m (U : Nat → Blk) (ops : List OpF) : ∀ s : MgrF,
    (runF U s ops).m = ops.foldl (eraseOp U) s.m := by
  induction ops with
  | nil => intro s; rfl
  | cons op ops ih =>
    intro s
    simp only [runF, List.foldl_cons] at ih ⊢
    rw [ih, stepF_m]

end Verif.Chain
