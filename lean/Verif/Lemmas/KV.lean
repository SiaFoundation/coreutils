/-
`MemDB` refines `Spec` (`memdb_step_refines`).  Everything `MemDB` does is bucket-local: the working
image of a bucket is the `overlay` of its committed map with its pending puts and deletes (`image`),
`R` holds bucket by bucket (`R_iff`, `BucketR`), and `CreateBucket`, `put` and `delete` replace the
pending maps of one bucket (`MemDB.setPending`, `R.setPending`).
-/
import Verif.Model.KV

namespace Verif.KV
open Std

/-- Well-formedness of a MemDB state: a key is never pending both as a put and as a
delete. -/
structure MemDB.WF (d : MemDB) : Prop where
  disj : ∀ b p ds, d.puts b = some p → d.dels b = some ds → ∀ k, k ∈ p → k ∈ ds → False

/-- The refinement relation.  The working image of bucket `b` is exactly what `get`
returns; the durable image is `buckets`. -/
structure R (d : MemDB) (s : Spec) : Prop where
  has : ∀ b, (s.working b).isSome = d.has b
  get : ∀ b m, s.working b = some m → ∀ k, m[k]? = d.get b k
  dur : ∀ b, s.durable b = d.buckets b
  wf : d.WF
  /-- a bucket with a pending map is either committed or has both pending maps
  (created in this session) — what makes `put`/`delete` never fail on an existing bucket -/
  pend : ∀ b, d.has b = true → (d.buckets b).isSome = true ∨ ((d.puts b).isSome = true ∧ (d.dels b).isSome = true)

/-- a bucket of the inner backend seen through the overlay: pending deletes hide inner
pairs, pending puts are added / override -/
def overlay (tm p : KMap) (ds : KSet) : KMap := (tm.filter fun k _ => !ds.contains k) ∪ p

theorem getElem?_overlay (tm p : KMap) (ds : KSet) (k : Nat) :
    (overlay tm p ds)[k]? = (p[k]?).or (if ds.contains k then none else tm[k]?) := by
  simp only [overlay, ExtTreeMap.getElem?_union, ExtTreeMap.getElem?_filter']
  cases tm[k]? <;> cases p[k]? <;> cases ds.contains k <;> rfl

theorem overlay_empty (tm : KMap) : overlay tm ∅ ∅ = tm := by
  apply ExtTreeMap.ext_getElem?
  intro k
  simp only [getElem?_overlay, ExtTreeMap.getElem?_empty, ExtTreeMap.contains_empty, Option.none_or]
  rfl

theorem overlay_insert (tm p : KMap) (ds : KSet) (k v : Nat) :
    overlay tm (p.insert k v) (ds.erase k) = (overlay tm p ds).insert k v := by
  apply ExtTreeMap.ext_getElem?
  intro k'
  simp only [getElem?_overlay, ExtTreeMap.getElem?_insert, ExtTreeMap.contains_erase,
    Nat.compare_eq_eq]
  by_cases hk : k = k' <;> simp [hk]

theorem overlay_erase (tm p : KMap) (ds : KSet) (k : Nat) :
    overlay tm (p.erase k) (ds.insert k ()) = (overlay tm p ds).erase k := by
  apply ExtTreeMap.ext_getElem?
  intro k'
  simp only [getElem?_overlay, ExtTreeMap.getElem?_erase, ExtTreeMap.contains_insert,
    Nat.compare_eq_eq]
  by_cases hk : k = k' <;> simp [hk]

/-- `Flush` merges the puts first and removes the deleted keys afterwards; that is the overlay
when no key is pending both ways -/
theorem filter_union_eq_overlay (tm p : KMap) (ds : KSet) (h : ∀ k, k ∈ p → k ∈ ds → False) :
    (tm ∪ p).filter (fun k _ => !ds.contains k) = overlay tm p ds := by
  apply ExtTreeMap.ext_getElem?
  intro k
  rw [getElem?_overlay, ExtTreeMap.getElem?_filter', ExtTreeMap.getElem?_union]
  cases hp : p[k]? with
  | none => cases tm[k]? <;> cases ds.contains k <;> rfl
  | some v =>
    have hk : k ∈ p := ExtTreeMap.mem_iff_isSome_getElem?.mpr (hp ▸ rfl)
    have hd : ds.contains k = false :=
      Bool.eq_false_iff.mpr fun hc => h k hk (ExtTreeMap.contains_iff_mem.mp hc)
    rw [hd]
    rfl

/-- the working image of a bucket with committed map `c`, pending puts `P` and pending deletes
`D`: the bucket exists iff one of the three maps does (`MemDB.Bucket`) -/
def image (c P : Option KMap) (D : Option KSet) : Option KMap :=
  if c.isSome || P.isSome || D.isSome then some (overlay (c.getD ∅) (P.getD ∅) (D.getD ∅)) else none

/-- what `R` says of a single bucket -/
structure BucketR (c P : Option KMap) (D : Option KSet) (w : Option KMap) : Prop where
  work : w = image c P D
  disj : ∀ k, k ∈ P.getD ∅ → k ∈ D.getD ∅ → False
  pend : c = none → P.isSome = D.isSome

theorem getElem?_getD_empty {β} (m : Option (ExtTreeMap Nat β)) (k : Nat) :
    (m.getD ∅)[k]? = m.bind (·[k]?) := by
  cases m <;> rfl

theorem contains_getD_empty {β} (m : Option (ExtTreeMap Nat β)) (k : Nat) :
    (m.getD ∅).contains k = (m.map (·.contains k)).getD false := by
  cases m <;> rfl

theorem get_eq_overlay (d : MemDB) (b k : Nat) :
    d.get b k = (overlay ((d.buckets b).getD ∅) ((d.puts b).getD ∅) ((d.dels b).getD ∅))[k]? := by
  rw [getElem?_overlay, getElem?_getD_empty, getElem?_getD_empty, contains_getD_empty]
  unfold MemDB.get
  cases (d.puts b).bind (·[k]?) <;> rfl

theorem iterMap_eq_overlay (d : MemDB) (b : Nat) :
    d.iterMap b = overlay ((d.buckets b).getD ∅) ((d.puts b).getD ∅) ((d.dels b).getD ∅) := by
  apply ExtTreeMap.ext_getElem?
  intro k
  simp only [MemDB.iterMap, getElem?_overlay, ExtTreeMap.getElem?_union, ExtTreeMap.getElem?_filter',
    ExtTreeMap.contains_eq_isSome_getElem?]
  cases ((d.puts b).getD ∅)[k]? <;> cases ((d.dels b).getD ∅)[k]? <;> cases ((d.buckets b).getD ∅)[k]? <;> rfl

theorem getElem?_iterMap (d : MemDB) (b k : Nat) : (d.iterMap b)[k]? = d.get b k := by
  rw [iterMap_eq_overlay, get_eq_overlay]

theorem image_isSome (c P : Option KMap) (D : Option KSet) :
    (image c P D).isSome = (c.isSome || P.isSome || D.isSome) := by
  unfold image
  split <;> simp [*]

theorem image_eq_some {c P : Option KMap} {D : Option KSet} {m : KMap} (h : image c P D = some m) :
    m = overlay (c.getD ∅) (P.getD ∅) (D.getD ∅) := by
  unfold image at h
  split at h
  · exact (Option.some.inj h).symm
  · cases h

theorem image_of_puts (c : Option KMap) (p : KMap) (D : Option KSet) :
    image c (some p) D = some (overlay (c.getD ∅) p (D.getD ∅)) := by
  simp [image]

theorem image_of_dels (c P : Option KMap) (ds : KSet) :
    image c P (some ds) = some (overlay (c.getD ∅) (P.getD ∅) ds) := by
  simp [image]

theorem BucketR.committed (c : Option KMap) : BucketR c none none c := by
  refine ⟨?_, fun _ hk => absurd hk ExtTreeMap.not_mem_empty, fun _ => rfl⟩
  cases c with
  | none => rfl
  | some m => exact congrArg some (overlay_empty m).symm

theorem BucketR.create : BucketR none (some ∅) (some ∅) (some ∅) :=
  ⟨congrArg some (overlay_empty ∅).symm, fun _ hk => absurd hk ExtTreeMap.not_mem_empty, fun _ => rfl⟩

theorem BucketR.ensure {c P : Option KMap} {D : Option KSet} {w : Option KMap} (h : BucketR c P D w)
    (hc : c.isSome = true) : BucketR c (some (P.getD ∅)) (some (D.getD ∅)) w := by
  refine ⟨?_, h.disj, fun hn => ?_⟩
  · rw [h.work, image_of_puts]
    simp [image, hc]
  · rw [hn] at hc
    cases hc

theorem getD_map_erase {β} (m : Option (ExtTreeMap Nat β)) (k : Nat) :
    (m.map (·.erase k)).getD ∅ = (m.getD ∅).erase k := by
  cases m with
  | none => exact ExtTreeMap.erase_empty.symm
  | some _ => rfl

theorem BucketR.both {P : Option KMap} {D : Option KSet} {m : KMap} (h : BucketR none P D (some m)) :
    P.isSome = true ∧ D.isSome = true := by
  have hs := congrArg Option.isSome h.work
  rw [image_isSome, h.pend rfl] at hs
  have : D.isSome = true := by simpa using hs.symm
  exact ⟨(h.pend rfl).trans this, this⟩

theorem BucketR.put {c P : Option KMap} {D : Option KSet} {m : KMap} (h : BucketR c P D (some m))
    (k v : Nat) :
    BucketR c (some ((P.getD ∅).insert k v)) (D.map (·.erase k)) (some (m.insert k v)) := by
  constructor
  · rw [image_of_puts, getD_map_erase, overlay_insert, image_eq_some h.work.symm]
  · intro k' h1 h2
    rw [getD_map_erase, ExtTreeMap.mem_erase] at h2
    rcases ExtTreeMap.mem_insert.mp h1 with h1 | h1
    · exact h2.1 h1
    · exact h.disj k' h1 h2.2
  · intro hc
    subst hc
    rw [Option.isSome_map, h.both.2]
    rfl

theorem BucketR.delete {c P : Option KMap} {D : Option KSet} {m : KMap} (h : BucketR c P D (some m))
    (k : Nat) :
    BucketR c (P.map (·.erase k)) (some ((D.getD ∅).insert k ())) (some (m.erase k)) := by
  constructor
  · rw [image_of_dels, getD_map_erase, overlay_erase, image_eq_some h.work.symm]
  · intro k' h1 h2
    rw [getD_map_erase, ExtTreeMap.mem_erase] at h1
    rcases ExtTreeMap.mem_insert.mp h2 with h2 | h2
    · exact h1.1 h2
    · exact h.disj k' h1.2 h2
  · intro hc
    subst hc
    rw [Option.isSome_map, h.both.1]
    rfl

theorem upd_self {α} (f : Nat → α) (b : Nat) : upd f b (f b) = f := by
  funext b'
  unfold upd
  split
  · next h => rw [h]
  · rfl

/-- `delete(m[b], k)` on a possibly absent inner map, in the form `MemDB.put` and `MemDB.delete`
unfold to (the `match` is on the right so that rewriting with it produces that form) -/
theorem upd_map {α} (f : Nat → Option α) (b : Nat) (g : α → α) :
    upd f b ((f b).map g) =
      match f b with
      | none => f
      | some x => upd f b (some (g x)) := by
  split
  · next h =>
    rw [h, Option.map_none, ← h]
    exact upd_self f b
  · next x h => rw [h, Option.map_some]

def MemDB.setPending (d : MemDB) (b : Nat) (P : Option KMap) (D : Option KSet) : MemDB :=
  { d with puts := upd d.puts b P, dels := upd d.dels b D }

theorem create_eq (d : MemDB) (b : Nat) :
    d.create b = if d.has b then none else some (d.setPending b (some ∅) (some ∅)) := rfl

theorem put_eq (d : MemDB) (b k v : Nat)
    (h : (d.buckets b).isSome = true ∨ (d.puts b).isSome = true) :
    d.put b k v = some (d.setPending b (some (((d.puts b).getD ∅).insert k v))
      ((d.dels b).map (·.erase k))) := by
  unfold MemDB.put MemDB.setPending
  rw [upd_map]
  cases hp : d.puts b with
  | some p => cases d.dels b <;> rfl
  | none =>
    cases hb : d.buckets b with
    | some c => cases d.dels b <;> rfl
    | none => simp [hp, hb] at h

theorem delete_eq (d : MemDB) (b k : Nat)
    (h : (d.buckets b).isSome = true ∨ (d.dels b).isSome = true) :
    d.delete b k = some (d.setPending b ((d.puts b).map (·.erase k))
      (some (((d.dels b).getD ∅).insert k ()))) := by
  unfold MemDB.delete MemDB.setPending
  rw [upd_map]
  cases hd : d.dels b with
  | some ds => cases d.puts b <;> rfl
  | none =>
    cases hb : d.buckets b with
    | some c => cases d.puts b <;> rfl
    | none => simp [hd, hb] at h

theorem WF_iff {d : MemDB} :
    d.WF ↔ ∀ b k, k ∈ (d.puts b).getD ∅ → k ∈ (d.dels b).getD ∅ → False := by
  constructor
  · intro h b k h1 h2
    cases hp : d.puts b with
    | none => rw [hp] at h1; exact ExtTreeMap.not_mem_empty h1
    | some p =>
      cases hd : d.dels b with
      | none => rw [hd] at h2; exact ExtTreeMap.not_mem_empty h2
      | some ds =>
        rw [hp] at h1
        rw [hd] at h2
        exact h.disj b p ds hp hd k h1 h2
  · intro h
    refine ⟨fun b p ds hp hd k h1 h2 => h b k ?_ ?_⟩
    · rw [hp]; exact h1
    · rw [hd]; exact h2

/-- `R` is the form the statements use; the proofs establish it through this bucket-by-bucket form
(single fields of `R` are still read off directly where one is all that is needed) -/
theorem R_iff {d : MemDB} {s : Spec} :
    R d s ↔ (∀ b, s.durable b = d.buckets b) ∧
      ∀ b, BucketR (d.buckets b) (d.puts b) (d.dels b) (s.working b) := by
  constructor
  · intro h
    refine ⟨h.dur, fun b => ⟨?_, ?_, ?_⟩⟩
    · have hh : (s.working b).isSome = ((d.buckets b).isSome || (d.puts b).isSome || (d.dels b).isSome) :=
        h.has b
      unfold image
      rw [← hh]
      cases hw : s.working b with
      | none => rfl
      | some m =>
        refine congrArg some (ExtTreeMap.ext_getElem? fun k => ?_)
        rw [h.get b m hw k, get_eq_overlay]
    · exact WF_iff.mp h.wf b
    · intro hc
      have := h.pend b
      simp only [MemDB.has, hc, Option.isSome_none, Bool.false_or, Bool.false_eq_true,
        false_or] at this
      cases hP : (d.puts b).isSome <;> cases hD : (d.dels b).isSome <;> simp [hP, hD] at this ⊢
  · intro ⟨hdur, hB⟩
    refine ⟨fun b => ?_, fun b m hm k => ?_, hdur, WF_iff.mpr fun b => (hB b).disj, fun b hb => ?_⟩
    · rw [(hB b).work, image_isSome]
      rfl
    · rw [get_eq_overlay, ← image_eq_some ((hB b).work.symm.trans hm)]
    · cases hc : d.buckets b with
      | some c => exact .inl rfl
      | none =>
        have hp := (hB b).pend hc
        simp only [MemDB.has, hc, hp, Option.isSome_none, Bool.false_or, Bool.or_self] at hb
        exact .inr ⟨hp.trans hb, hb⟩

theorem R.setPending {d : MemDB} {s : Spec} (h : R d s) {b : Nat} {P : Option KMap} {D : Option KSet}
    {w : Option KMap} (hb : BucketR (d.buckets b) P D w) :
    R (d.setPending b P D) { s with working := upd s.working b w } := by
  obtain ⟨hdur, hB⟩ := R_iff.mp h
  refine R_iff.mpr ⟨hdur, fun b' => ?_⟩
  by_cases hbb : b' = b
  · subst hbb
    simpa only [MemDB.setPending, upd_same] using hb
  · simpa only [MemDB.setPending, upd_other _ _ _ _ hbb] using hB b'

theorem overlay_no_dels (tm p : KMap) : overlay tm p ∅ = tm ∪ p := by
  apply ExtTreeMap.ext_getElem?
  intro k
  rw [getElem?_overlay, ExtTreeMap.getElem?_union, ExtTreeMap.contains_empty]
  rfl

theorem overlay_no_puts (tm : KMap) (ds : KSet) :
    overlay tm ∅ ds = tm.filter fun k _ => !ds.contains k := by
  apply ExtTreeMap.ext_getElem?
  intro k
  rw [getElem?_overlay, ExtTreeMap.getElem?_filter', ExtTreeMap.getElem?_empty, Option.none_or]
  cases tm[k]? <;> cases ds.contains k <;> rfl

theorem flush_buckets (d : MemDB) (b : Nat)
    (hdisj : ∀ k, k ∈ (d.puts b).getD ∅ → k ∈ (d.dels b).getD ∅ → False) :
    d.flush.buckets b = image (d.buckets b) (d.puts b) (d.dels b) := by
  cases hp : d.puts b with
  | none =>
    cases hd : d.dels b with
    | none =>
      simp only [MemDB.flush, hp, hd]
      exact (BucketR.committed _).work
    | some ds =>
      simp only [MemDB.flush, hp, hd]
      rw [image_of_dels, Option.getD_none, overlay_no_puts]
  | some p =>
    cases hd : d.dels b with
    | none =>
      simp only [MemDB.flush, hp, hd]
      rw [image_of_puts, Option.getD_none, overlay_no_dels]
    | some ds =>
      rw [hp, hd] at hdisj
      simp only [MemDB.flush, hp, hd]
      rw [image_of_puts, Option.getD_some, Option.getD_some, filter_union_eq_overlay _ p ds hdisj]

theorem R_init : R MemDB.init Spec.init :=
  R_iff.mpr ⟨fun _ => rfl, fun _ => BucketR.committed none⟩

theorem has_eq_false {d : MemDB} {b : Nat} :
    d.has b = false ↔ d.buckets b = none ∧ d.puts b = none ∧ d.dels b = none := by
  simp [MemDB.has, and_assoc]

/-- the frame of every bucket operation: a missing bucket is reported by both sides; otherwise
the operation acts on a bucket related by `BucketR`.  `X` and `Y` are found by unification with the
`if` and `match` that `MemDB.step` and `Spec.step` unfold to. -/
theorem bucket_op {d : MemDB} {s : Spec} (h : R d s) (b : Nat) (X : MemDB × Out)
    (Y : KMap → Spec × Out)
    (hXY : ∀ m, d.has b = true → s.working b = some m →
      BucketR (d.buckets b) (d.puts b) (d.dels b) (some m) → X.2 = (Y m).2 ∧ R X.1 (Y m).1) :
    (if !d.has b then (d, Out.nobucket) else X).2 =
        (match s.working b with
          | none => (s, Out.nobucket)
          | some m => Y m).2 ∧
      R (if !d.has b then (d, Out.nobucket) else X).1
        (match s.working b with
          | none => (s, Out.nobucket)
          | some m => Y m).1 := by
  have hb := (R_iff.mp h).2 b
  have hh := h.has b
  cases hw : s.working b with
  | none =>
    rw [hw] at hh
    rw [← hh]
    exact ⟨rfl, h⟩
  | some m =>
    rw [hw] at hh hb
    rw [← hh]
    exact hXY m hh.symm hw hb

theorem memdb_step_refines (d : MemDB) (s : Spec) (h : R d s) (op : Op) :
    (d.step op).2 = (s.step op).2 ∧ R (d.step op).1 (s.step op).1 := by
  obtain ⟨hdur, hB⟩ := R_iff.mp h
  cases op with
  | create b =>
    have hh := h.has b
    simp only [MemDB.step, Spec.step, create_eq]
    cases hw : s.working b with
    | some m =>
      rw [hw] at hh
      rw [← hh]
      exact ⟨rfl, h⟩
    | none =>
      rw [hw] at hh
      rw [← hh]
      exact ⟨rfl, h.setPending ((has_eq_false.mp hh.symm).1 ▸ BucketR.create)⟩
  | put b k v =>
    refine bucket_op h b _ _ fun m hh hw hb => ?_
    rw [put_eq d b k v ((h.pend b hh).imp_right And.left)]
    exact ⟨rfl, h.setPending (hb.put k v)⟩
  | del b k =>
    refine bucket_op h b _ _ fun m hh hw hb => ?_
    rw [delete_eq d b k ((h.pend b hh).imp_right And.right)]
    exact ⟨rfl, h.setPending (hb.delete k)⟩
  | get b k =>
    exact bucket_op h b _ _ fun m hh hw hb => ⟨congrArg Out.val (h.get b m hw k).symm, h⟩
  | iter b =>
    refine bucket_op h b _ _ fun m hh hw hb => ⟨congrArg Out.kvs ?_, h⟩
    rw [iterMap_eq_overlay, image_eq_some hb.work.symm]
  | flush =>
    have hf : ∀ b, d.flush.buckets b = s.working b := fun b =>
      (flush_buckets d b (hB b).disj).trans (hB b).work.symm
    refine ⟨rfl, R_iff.mpr ⟨fun b => (hf b).symm, fun b => ?_⟩⟩
    show BucketR (d.flush.buckets b) none none (s.working b)
    rw [hf b]
    exact BucketR.committed _
  | cancel =>
    refine ⟨rfl, R_iff.mpr ⟨hdur, fun b => ?_⟩⟩
    show BucketR (d.buckets b) none none (s.durable b)
    rw [hdur b]
    exact BucketR.committed _

end Verif.KV
