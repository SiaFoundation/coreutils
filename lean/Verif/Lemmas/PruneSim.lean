/-
C19, the simulation pruned ~ unpruned: a pruned node (`PInv U mp p`) and an unpruned node
(`PInv U mu 0`) that received the same submissions have the same states, best chain and
notification count, and the same records except that the pruned node holds header-only records
where the unpruned one holds full ones.  `AddBlocks` keeps this relation with identical results,
unless the reorg has to revert a pruned block (fork point below height `p - 1`), in which case the
pruned node answers `reorgFailed` and keeps its best chain.
-/
import Verif.Lemmas.Prune

namespace Verif.Chain

/-- `mp` is a pruned copy (frontier `p`) of the unpruned node `mu` -/
structure Sim (U : Nat → Blk) (mp mu : Mgr) (p : Nat) : Prop where
  pinv : PInv U mp p
  uinv : PInv U mu 0
  states : ∀ i, mp.states i = mu.states i
  best : mp.best = mu.best
  notified : mp.notified = mu.notified
  /-- a record is the same on both nodes or pruned on `mp` and complete on `mu` -/
  recs : ∀ i, mp.recs i = mu.recs i ∨ (mp.recs i = some ⟨false, false⟩ ∧ mu.recs i = some ⟨true, true⟩)

theorem Sim.refl {U m} (h : Inv U m) : Sim U m m 0 :=
  ⟨h.toPInv, h.toPInv, fun _ => rfl, rfl, rfl, fun _ => Or.inl rfl⟩

theorem Sim.tip {U mp mu p} (hs : Sim U mp mu p) : mp.tip = mu.tip := by simp [Mgr.tip, hs.best]

theorem Sim.notify {U mp mu p} (hs : Sim U mp mu p) :
    Sim U { mp with notified := mp.notified + 1 } { mu with notified := mu.notified + 1 } p :=
  ⟨hs.pinv.congr rfl rfl rfl, hs.uinv.congr rfl rfl rfl, hs.states, hs.best, congrArg (· + 1) hs.notified, hs.recs⟩

theorem Sim.recs_eq {U mp mu p} (hs : Sim U mp mu p) {i : Nat}
    (hi : ¬ (i ∈ mp.best ∧ (U i).height < p)) : mp.recs i = mu.recs i := by
  rcases hs.recs i with e | ⟨e, _⟩
  · exact e
  · exact absurd (hs.pinv.of_pruned e) hi

theorem Sim.recs_pruned {U mp mu p} (hs : Sim U mp mu p) {i : Nat}
    (hi : i ∈ mp.best) (hlt : (U i).height < p) :
    mp.recs i = some ⟨false, false⟩ ∧ mu.recs i = some ⟨true, true⟩ :=
  ⟨hs.pinv.pruned i hi hlt, hs.uinv.stored i (hs.best ▸ hi) (Nat.zero_le _)⟩

theorem Sim.known_iff {U mp mu p} (hs : Sim U mp mu p) (b : Nat) : mp.known b ↔ mu.known b := by
  rcases hs.recs b with e | ⟨e1, e2⟩
  · simp [Mgr.known, Mgr.block, Mgr.header, e]
  · exact ⟨fun _ => Mgr.known_of_stored e2, fun _ => Or.inr (by simp [Mgr.header, Mgr.block, e1])⟩

/-! ### the relation moves with the store like the invariant -/

theorem Sim.store {U mp mu p} (hs : Sim U mp mu p) {i : Nat} {s : Bool} (hnb : i ∉ mp.best)
    (hpar : mp.states (par U i) = true) (hh : (U i).height = (U (par U i)).height + 1)
    (hhdr : (U i).hdrOk = true ∧ (U i).future = false) (hbody : s = true → (U i).bodyOk = true) :
    Sim U { mp with states := upd mp.states i true, recs := upd mp.recs i (some ⟨true, s⟩) }
      { mu with states := upd mu.states i true, recs := upd mu.recs i (some ⟨true, s⟩) } p := by
  refine ⟨hs.pinv.store hnb hpar hh hhdr hbody,
    hs.uinv.store (hs.best ▸ hnb) (hs.states _ ▸ hpar) hh hhdr hbody, fun j => ?_, hs.best, hs.notified, fun j => ?_⟩
  · by_cases e : j = i <;> simp [upd, e, hs.states j]
  · by_cases e : j = i
    · simp [upd, e]
    · simpa [upd, e] using hs.recs j

theorem Sim.push {U mp mu p} (hs : Sim U mp mu p) {i : Nat} (hp : par U i = mp.tip) (hne : i ≠ 0)
    (hr : mp.recs i = some ⟨true, true⟩) :
    Sim U { mp with best := i :: mp.best } { mu with best := i :: mu.best } p := by
  have hru : mu.recs i = some ⟨true, true⟩ := by
    rcases hs.recs i with e | ⟨e, _⟩
    · exact e ▸ hr
    · cases hr.symm.trans e
  exact ⟨hs.pinv.push hp hne hr, hs.uinv.push (hs.tip ▸ hp) hne hru, hs.states,
    congrArg (i :: ·) hs.best, hs.notified, hs.recs⟩

theorem Sim.drop {U mp mu p} (hs : Sim U mp mu p) {c : Nat} (hc : c < mp.best.length)
    (hcp : c + p ≤ mp.best.length) :
    Sim U { mp with best := mp.best.drop c } { mu with best := mu.best.drop c } p :=
  ⟨hs.pinv.drop hc hcp, hs.uinv.drop (hs.best ▸ hc) (hs.best ▸ Nat.le_of_lt hc), hs.states,
    congrArg (List.drop c) hs.best, hs.notified, hs.recs⟩

theorem sim_prune {U mp mu p} (hs : Sim U mp mu p) (height : Nat) :
    Sim U (prune mp height) mu (max p (min height mp.best.length)) := by
  obtain ⟨p1, p2, p3, p4⟩ := prune_go_spec (min height (mp.tipHeight + 1)) mp
  refine ⟨prune_p hs.pinv height, hs.uinv, fun i => (congrFun p2 i).trans (hs.states i), p1.trans hs.best,
    p3.trans hs.notified, fun i => ?_⟩
  rcases p4 i with e | ⟨e, _, k, _, hk⟩
  · exact e.symm ▸ hs.recs i
  · exact Or.inr ⟨e, hs.uinv.stored i (hs.best ▸ bestAt_mem hk) (Nat.zero_le _)⟩

/-! ### `reorgTo` and `AddBlocks` on the two nodes -/

theorem applyTip_sim {U mp mu p} (hs : Sim U mp mu p) {i : Nat} (hp : par U i = mp.tip) (hne : i ≠ 0)
    (hst : mp.states i = true) :
    (∃ mp' mu', applyTip U mp i = .ok mp' ∧ applyTip U mu i = .ok mu' ∧ Sim U mp' mu' p ∧
        Mono mp mp' ∧ mp'.best = i :: mp.best) ∨
    (applyTip U mp i = .error .invalidBlock ∧ applyTip U mu i = .error .invalidBlock) := by
  have hpu : par U i = mu.tip := hs.tip ▸ hp
  -- the block is not on the best chain, hence stored identically on both nodes
  have hnb := hs.pinv.toWInv.above_tip hp hne hst
  obtain ⟨s, hr⟩ := (pinv_kept U p).above_tip hs.pinv hp hne hst
  have hru : mu.recs i = some ⟨true, s⟩ := hs.recs_eq (fun h => hnb h.1) ▸ hr
  cases s with
  | true =>
    exact Or.inl ⟨_, _, applyTip_stored hp hr, applyTip_stored hpu hru, hs.push hp hne hr,
      Mono.of_best mp _, rfl⟩
  | false =>
    cases hok : (U i).bodyOk with
    | false => exact Or.inr ⟨applyTip_invalid hp hr hok, applyTip_invalid hpu hru hok⟩
    | true =>
      have hst' := hs.store (s := true) hnb (hp ▸ hs.pinv.toWInv.tip_state) (hs.pinv.core.closed i hst hne).2
        (hs.pinv.validHdr i hne hst) (fun _ => hok)
      exact Or.inl ⟨_, _, applyTip_valid hp hr hok, applyTip_valid hpu hru hok,
        hst'.push hp hne (by simp [upd]), mono_store mp i _, rfl⟩

theorem applyAll_sim {U p} : ∀ (l : List Nat) (mp mu : Mgr), Sim U mp mu p → Attach U mp mp.tip l →
    (applyAll U l mp).2 = (applyAll U l mu).2 ∧ Sim U (applyAll U l mp).1 (applyAll U l mu).1 p := by
  intro l
  induction l with
  | nil => intro mp mu hs _; exact ⟨rfl, hs⟩
  | cons x xs ih =>
    intro mp mu hs ⟨hp, hne, hst, hrest⟩
    rcases applyTip_sim hs hp hne hst with ⟨mp', mu', ok1, ok2, hs', mono1, best1⟩ | ⟨e1, e2⟩
    · have htip' : mp'.tip = x := by simp [Mgr.tip, best1]
      rw [applyAll_ok ok1, applyAll_ok ok2]
      exact ih mp' mu' hs' (htip' ▸ Attach.mono mono1 hrest)
    · rw [applyAll_error e1, applyAll_error e2]
      exact ⟨rfl, hs⟩

/-- **`reorgTo` on the two nodes**: identical outcome and the relation is kept, unless a pruned
block would have to be reverted — then the pruned node reports a missing block and the fork point
of the (common) reorg path lies more than one block below the frontier -/
theorem reorgTo_sim {U mp mu p} (hs : Sim U mp mu p) {t : Nat} (ht : mp.states t = true) :
    ((reorgTo U mp t).2 = (reorgTo U mu t).2 ∧ Sim U (reorgTo U mp t).1 (reorgTo U mu t).1 p) ∨
    ((reorgTo U mp t).2 = some .missingBlock ∧
      ∃ na nb, reorgPath U mu mu.tip t none =
          .ok ((List.range na).map (fun k => anc U k mu.tip), ((List.range nb).map (fun k => anc U k t)).reverse) ∧
        anc U na mu.tip = anc U nb t ∧ (U (anc U na mu.tip)).height + 1 < p) := by
  have hwp := hs.pinv.toWInv
  have hwu := hs.uinv.toWInv
  have htip := hs.tip
  obtain ⟨na, nb, c, hna, hnb, -, hmeet, hleast, hcn, hfull, hrun⟩ := hwp.reorgTo_eq ht
  obtain ⟨na', nb', c', hna', hnb', hpath', hmeet', hleast', -, -, hrun'⟩ := hwu.reorgTo_eq (hs.states t ▸ ht)
  -- both nodes find the lowest common ancestor, hence the same path
  obtain ⟨rfl, rfl⟩ : na = na' ∧ nb = nb' := by
    have a := hleast na' nb' (htip ▸ hna') hnb' (htip ▸ hmeet')
    have b := hleast' na nb (htip ▸ hna) hnb (htip ▸ hmeet)
    exact ⟨Nat.le_antisymm a.1 b.1, Nat.le_antisymm a.2 b.2⟩
  -- the unpruned node reverts all of its leg
  rcases hrun' with ⟨rfl, hrun'⟩ | ⟨hlt, hpr, -⟩
  · rw [hrun']
    rcases hrun with ⟨rfl, hrun⟩ | ⟨hlt, hpr, hrun⟩
    · rw [hrun]
      exact .inl (applyAll_sim _ _ _
        (hs.drop (hwp.length ▸ Nat.lt_succ_of_le hna) (hs.pinv.frontier_of_full hna hfull))
        (hwp.attach_drop ht hna hnb hmeet))
    · have hc := (hs.pinv.core.anc_state hwp.tip_state c (Nat.le_trans hcn hna)).2
      have hh := (hs.pinv.core.anc_state hwp.tip_state c' hna).2
      have := (hs.pinv.of_pruned hpr).2
      exact .inr ⟨by rw [hrun], c', nb, hpath', hmeet', by rw [← htip]; omega⟩
  · cases (hs.uinv.stored _ (hwu.anc_mem (Nat.le_trans (Nat.le_of_lt hlt) hna')) (Nat.zero_le _)).symm.trans hpr

theorem maybeReorg_sim {U mp mu p} (hs : Sim U mp mu p) {cs : Nat} (hcs : mp.states cs = true) :
    ((maybeReorg U mp cs).2 = (maybeReorg U mu cs).2 ∧ Sim U (maybeReorg U mp cs).1 (maybeReorg U mu cs).1 p) ∨
    ((maybeReorg U mp cs).2 = some .reorgFailed ∧ (maybeReorg U mp cs).1.best = mp.best ∧
      (maybeReorg U mp cs).1.notified = mp.notified ∧ heavier U cs mu.tip = true ∧
      ∃ na nb, reorgPath U mu mu.tip cs none =
          .ok ((List.range na).map (fun k => anc U k mu.tip), ((List.range nb).map (fun k => anc U k cs)).reverse) ∧
        anc U na mu.tip = anc U nb cs ∧ (U (anc U na mu.tip)).height + 1 < p) := by
  have htip := hs.tip
  have hcsu : mu.states cs = true := hs.states cs ▸ hcs
  cases hh : heavier U cs mp.tip with
  | false =>
    rw [maybeReorg_light hh, maybeReorg_light (htip ▸ hh)]
    exact Or.inl ⟨rfl, hs⟩
  | true =>
    have hhu : heavier U cs mu.tip = true := htip ▸ hh
    obtain ⟨b1, _, b3, b4⟩ := rollback_p hs.pinv hcs
    rcases reorgTo_sim hs hcs with ⟨he, hsim⟩ | ⟨hmiss, hfork⟩
    · left
      by_cases hr : (reorgTo U mp cs).2 = none
      · rw [maybeReorg_ok hh hr, maybeReorg_ok hhu (he ▸ hr)]
        exact ⟨rfl, hsim.notify⟩
      · -- both roll back; the pruned rollback succeeds, hence the two rollbacks agree
        rw [maybeReorg_failed (pinv_kept U p) hs.pinv hcs hh hr, maybeReorg_failed (pinv_kept U 0) hs.uinv hcsu hhu (he ▸ hr), ← htip]
        have hold := (reorgTo_kept (pinv_kept U p) hs.pinv hcs).2.1.states _ hs.pinv.toWInv.tip_state
        rcases reorgTo_sim hsim hold with ⟨_, hsim2⟩ | ⟨hmiss2, _⟩
        · exact ⟨rfl, hsim2⟩
        · cases b1.symm.trans hmiss2
    · rw [maybeReorg_failed (pinv_kept U p) hs.pinv hcs hh (by rw [hmiss]; exact nofun)]
      exact Or.inr ⟨rfl, b4, b3.notified, hhu, hfork⟩

/-- the per-block loop of `AddBlocks` on the two nodes: a block pruned on `mp` is skipped there
and found complete on `mu`; everything else is decided identically -/
theorem addLoop_sim {U p} (hU : WFU U) : ∀ (batch : List Nat) (mp mu : Mgr) (cs : Nat), Sim U mp mu p →
    mp.states cs = true →
    (addBlocks.go U batch mp cs).2 = (addBlocks.go U batch mu cs).2 ∧
    Sim U (addBlocks.go U batch mp cs).1 (addBlocks.go U batch mu cs).1 p ∧
    (addBlocks.go U batch mp cs).1.best = mp.best ∧
    (addBlocks.go U batch mp cs).1.states (addBlocks.go U batch mp cs).2.2 = true := by
  intro batch
  induction batch with
  | nil => intro mp mu cs hs hcs; exact ⟨rfl, hs, rfl, hcs⟩
  | cons b bs ih =>
    intro mp mu cs hs hcs
    have hw := hs.pinv.toWInv
    by_cases hk : mp.known b
    · rw [addLoop_known hk, addLoop_known ((hs.known_iff b).mp hk)]
      exact ih mp mu b hs (hw.known_state hk)
    · have hc : addCheck U mu b cs = addCheck U mp b cs := by
        unfold addCheck
        rw [hs.states]
      rw [addLoop_new hk, addLoop_new (fun x => hk ((hs.known_iff b).mpr x)), hc]
      cases he : addCheck U mp b cs with
      | some e => exact ⟨rfl, hs, rfl, hcs⟩
      | none =>
        obtain ⟨hpar, hok, hfut⟩ := addCheck_none he hcs
        exact ih _ _ b (hs.store (s := false) (fun hb => hk (hw.known_of_mem hb)) hpar (hU.hdr b hok).2
          ⟨hok, hfut⟩ nofun) (by simp [upd])

/-- **`AddBlocks` on a pruned node simulates the unpruned node**: same result and the relation is
kept, unless the reorg towards the submitted chain has to revert a pruned block — its fork point
`anc na tip` lies at height `< p - 1` — in which case the pruned node answers `reorgFailed` and
keeps best chain and notification count -/
theorem addBlocks_sim {U p} (hU : WFU U) {mp mu : Mgr} (hs : Sim U mp mu p) (batch : List Nat) :
    ((addBlocks U mp batch).2 = (addBlocks U mu batch).2 ∧
      Sim U (addBlocks U mp batch).1 (addBlocks U mu batch).1 p) ∨
    ((addBlocks U mp batch).2 = some .reorgFailed ∧ (addBlocks U mp batch).1.best = mp.best ∧
      (addBlocks U mp batch).1.notified = mp.notified ∧
      ∃ cs na nb, heavier U cs mu.tip = true ∧
        reorgPath U (addBlocks.go U batch mu mu.tip).1 mu.tip cs none =
          .ok ((List.range na).map (fun k => anc U k mu.tip), ((List.range nb).map (fun k => anc U k cs)).reverse) ∧
        anc U na mu.tip = anc U nb cs ∧ (U (anc U na mu.tip)).height + 1 < p) := by
  cases batch with
  | nil => left; simp [addBlocks, hs]
  | cons b bs =>
    have htip := hs.tip
    obtain ⟨j1, j2, j3, j4⟩ := addLoop_sim hU (b :: bs) mp mu mp.tip hs hs.pinv.toWInv.tip_state
    have jn := (addLoop_kept (pinv_kept U p) hU.hgt (b :: bs) mp mp.tip hs.pinv hs.pinv.toWInv.tip_state).2.2.1
    simp only [addBlocks]
    rw [← htip]
    rcases hgp : addBlocks.go U (b :: bs) mp mp.tip with ⟨m1p, ep, csp⟩
    rcases hgu : addBlocks.go U (b :: bs) mu mp.tip with ⟨m1u, eu, csu⟩
    rw [hgp, hgu] at j1 j2
    rw [hgp] at j3 j4 jn
    simp only at j1 j2 j3 j4 jn
    cases j1
    cases ep with
    | some err => left; exact ⟨rfl, j2⟩
    | none =>
      simp only
      have htip1 : m1u.tip = mp.tip := by rw [← j2.tip]; simp [Mgr.tip, j3]
      rcases maybeReorg_sim j2 j4 with h | ⟨k1, k2, k3, k4, na, nb, k5, k6, k7⟩
      · left; exact h
      · right
        rw [htip1] at k4 k5 k6 k7
        exact ⟨k1, by rw [k2, j3], by rw [k3, jn], csp, na, nb, k4, k5, k6, k7⟩

/-! ### the frontier and `MinReorgIndex`; reorgs that need pruned bodies -/

theorem minReorgIndex_go_p {U m p} (h : PInv U m p) : ∀ (k i : Nat), k < m.best.length →
    m.bestAt k = some i → m.bestAt (min k p) = some (minReorgIndex.go m k i) := by
  intro k
  induction k with
  | zero => intro i _ hi; simpa [minReorgIndex.go] using hi
  | succ k ih =>
    intro i hk hi
    obtain ⟨q, hq⟩ : ∃ q, m.bestAt k = some q := ⟨_, bestAt_of_lt (by omega)⟩
    obtain ⟨r1, r2, _⟩ := h.bestAt_rec hq
    by_cases hpk : p ≤ k
    · have hgo : minReorgIndex.go m (k + 1) i = minReorgIndex.go m k q := by
        rw [minReorgIndex.go]; simp [hq, Mgr.block, r2 hpk]
      rw [hgo, show min (k + 1) p = min k p by omega]
      exact ih q (by omega) hq
    · have hgo : minReorgIndex.go m (k + 1) i = i := by
        rw [minReorgIndex.go]; simp [hq, Mgr.block, r1 (by omega)]
      rw [hgo, show min (k + 1) p = k + 1 by omega]
      exact hi

/-- **`MinReorgIndex` is the best-chain block at the frontier** (at the tip when everything is pruned) -/
theorem minReorgIndex_p {U m p} (h : PInv U m p) :
    m.bestAt (min m.tipHeight p) = some (minReorgIndex m) ∧
    (U (minReorgIndex m)).height = min m.tipHeight p := by
  have hw := h.toWInv
  have hlen := hw.length
  have := minReorgIndex_go_p h m.tipHeight m.tip (by simp only [Mgr.tipHeight]; omega) hw.bestAt_tip
  exact ⟨this, (hw.bestAt_height this).1⟩

/-- **a reorg that needs a pruned body fails with `missingBlock`**: if the fork point `reorgPath`
finds lies more than one block below the frontier, `reorgTo` stops at the first pruned block -/
theorem reorgTo_below_frontier {U m p} (h : PInv U m p) {t na nb : Nat} (hna : na ≤ (U m.tip).height)
    (hpath : reorgPath U m m.tip t none =
      .ok ((List.range na).map (fun k => anc U k m.tip), ((List.range nb).map (fun k => anc U k t)).reverse))
    (hdeep : (U (anc U na m.tip)).height + 1 < p) :
    (reorgTo U m t).2 = some .missingBlock := by
  have hw := h.toWInv
  have hlen := hw.length
  have hh := (h.core.anc_state hw.tip_state na hna).2
  obtain ⟨c, _, hfull, ⟨rfl, _⟩ | ⟨_, _, hrev⟩⟩ := hw.revertN_eq hna
  · have := h.frontier_of_full hna hfull
    omega
  · simp only [reorgTo, hpath, List.length_map, List.length_range, hrev]

/-- hence `AddBlocks`' reorg step answers `reorgFailed` and keeps the best chain -/
theorem maybeReorg_deep {U m p} (h : PInv U m p) {cs na nb : Nat} (hcs : m.states cs = true)
    (hh : heavier U cs m.tip = true) (hna : na ≤ (U m.tip).height)
    (hpath : reorgPath U m m.tip cs none =
      .ok ((List.range na).map (fun k => anc U k m.tip), ((List.range nb).map (fun k => anc U k cs)).reverse))
    (hdeep : (U (anc U na m.tip)).height + 1 < p) :
    (maybeReorg U m cs).2 = some .reorgFailed ∧ (maybeReorg U m cs).1.best = m.best ∧
    (maybeReorg U m cs).1.notified = m.notified := by
  obtain ⟨_, _, b3, b4⟩ := rollback_p h hcs
  rw [maybeReorg_failed (pinv_kept U p) h hcs hh (by rw [reorgTo_below_frontier h hna hpath hdeep]; exact nofun)]
  exact ⟨rfl, b4, b3.notified⟩

end Verif.Chain
