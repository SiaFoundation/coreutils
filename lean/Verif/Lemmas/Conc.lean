/-
Lemmas for C18: the invariant principle for runs, guarded steps, sums over the peer list under a
point update, the inductive invariants of the M11 systems (thread group, server, in-flight
accounting, peer caps, Run/Close teardown), the forward simulation of `HOL` on the sequential wire
by the counter system `SeqHOL`, and the weight `Round.demand` of a sync round's response channel.
-/
import Verif.Model.Conc

namespace Verif.Conc

/-! ### runs -/

theorem Sys.run_inv_labelled {σ α : Type} (S : Sys σ α) (P : σ → Prop) (L : α → Prop)
    (hstep : ∀ s a s', L a → P s → S.step s a = some s' → P s') :
    ∀ (tr : List α) (s s' : σ), (∀ a ∈ tr, L a) → P s → S.run s tr = some s' → P s' := by
  intro tr
  induction tr with
  | nil =>
    intro s s' _ hP h
    simp only [Sys.run, Option.some.injEq] at h
    subst h; exact hP
  | cons a as ih =>
    intro s s' hL hP h
    simp only [Sys.run] at h
    split at h
    · cases h
    · next s1 h1 =>
      exact ih s1 s' (fun b hb => hL b (List.mem_cons_of_mem _ hb))
        (hstep s a s1 (hL a List.mem_cons_self) hP h1) h

theorem Sys.run_inv {σ α : Type} (S : Sys σ α) (P : σ → Prop)
    (hstep : ∀ s a s', P s → S.step s a = some s' → P s') :
    ∀ (tr : List α) (s s' : σ), P s → S.run s tr = some s' → P s' :=
  fun tr s s' => Sys.run_inv_labelled S P (fun _ => True) (fun s a s' _ => hstep s a s') tr s s' (fun _ _ => trivial)

theorem Sys.reach_inv {σ α : Type} (S : Sys σ α) (P : σ → Prop) (s0 : σ) (h0 : P s0)
    (hstep : ∀ s a s', P s → S.step s a = some s' → P s') :
    ∀ s, S.Reach s0 s → P s := by
  intro s ⟨tr, h⟩
  exact Sys.run_inv S P hstep tr s0 s h0 h

theorem Sys.run_append {σ α : Type} (S : Sys σ α) :
    ∀ (tr1 tr2 : List α) (s s1 : σ), S.run s tr1 = some s1 → S.run s (tr1 ++ tr2) = S.run s1 tr2 := by
  intro tr1
  induction tr1 with
  | nil => intro tr2 s s1 h; simp only [Sys.run, Option.some.injEq] at h; subst h; rfl
  | cons a as ih =>
    intro tr2 s s1 h
    rw [List.cons_append]
    simp only [Sys.run] at h
    split at h
    · cases h
    · next s' h' =>
      show (match S.step s a with | none => none | some s' => S.run s' (as ++ tr2)) = _
      rw [h']; exact ih tr2 s' s1 h

theorem Sys.reach_step {σ α : Type} (S : Sys σ α) (s0 s s' : σ) (a : α)
    (h : S.Reach s0 s) (hs : S.step s a = some s') : S.Reach s0 s' := by
  obtain ⟨tr, htr⟩ := h
  refine ⟨tr ++ [a], ?_⟩
  rw [Sys.run_append S tr [a] s0 s htr]
  simp [Sys.run, hs]

/-! ### guarded steps -/

theorem guard_some {α : Type} {c : Prop} [Decidable c] {x y : α}
    (h : (if c then some x else none) = some y) : c ∧ x = y := by
  split at h <;> cases h
  exact ⟨‹c›, rfl⟩

theorem ite_cases {α : Type} {c : Prop} [Decidable c] {x y z : α}
    (h : (if c then x else y) = z) : c ∧ x = z ∨ ¬c ∧ y = z := by
  split at h
  · exact Or.inl ⟨‹c›, h⟩
  · exact Or.inr ⟨‹¬c›, h⟩

theorem guard_isSome {α : Type} {c : Prop} [Decidable c] {x : α} (h : c) :
    (if c then some x else none).isSome = true := by
  rw [if_pos h]; rfl

/-! ### sums over the peer list -/

theorem sumBy_append (f : PeerSt → Nat) (l₁ l₂ : List PeerSt) :
    sumBy f (l₁ ++ l₂) = sumBy f l₁ + sumBy f l₂ := by
  induction l₁ with
  | nil => simp [sumBy]
  | cons p ps ih => simp [sumBy, ih]; omega

theorem sumBy_set (f : PeerSt → Nat) :
    ∀ (l : List PeerSt) (i : Nat) (p q : PeerSt), l[i]? = some p →
      sumBy f (l.set i q) + f p = sumBy f l + f q := by
  intro l
  induction l with
  | nil => intro i p q h; simp at h
  | cons x xs ih =>
    intro i p q h
    cases i with
    | zero =>
      simp only [List.getElem?_cons_zero, Option.some.injEq] at h
      subst h
      simp only [List.set_cons_zero, sumBy]; omega
    | succ j =>
      simp only [List.getElem?_cons_succ] at h
      have := ih j p q h
      simp only [List.set_cons_succ, sumBy]; omega

theorem le_sumBy_of_mem (f : PeerSt → Nat) :
    ∀ (l : List PeerSt) (p : PeerSt), p ∈ l → f p ≤ sumBy f l := by
  intro l
  induction l with
  | nil => intro p h; cases h
  | cons x xs ih =>
    intro p h
    simp only [List.mem_cons] at h
    rcases h with h | h
    · subst h; simp only [sumBy]; omega
    · have := ih p h; simp only [sumBy]; omega

theorem sumBy_le_sumBy (f g : PeerSt → Nat) (h : ∀ p, f p ≤ g p) :
    ∀ l : List PeerSt, sumBy f l ≤ sumBy g l := by
  intro l
  induction l with
  | nil => simp [sumBy]
  | cons x xs ih => have := h x; simp only [sumBy]; omega

theorem sumBy_eq_zero (f : PeerSt → Nat) :
    ∀ l : List PeerSt, (∀ p ∈ l, f p = 0) → sumBy f l = 0
  | [], _ => rfl
  | x :: xs, hl => by
    rw [sumBy, hl x List.mem_cons_self, sumBy_eq_zero f xs fun p hp => hl p (List.mem_cons_of_mem _ hp)]

theorem mem_of_getElem?' {l : List PeerSt} {i : Nat} {p : PeerSt} (h : l[i]? = some p) : p ∈ l :=
  List.mem_of_getElem? h

theorem forall_mem_set {P : PeerSt → Prop} {l : List PeerSt} {i : Nat} {q : PeerSt}
    (hl : ∀ x ∈ l, P x) (hq : P q) : ∀ x ∈ l.set i q, P x := by
  intro x hx
  rcases List.mem_or_eq_of_mem_set hx with h | h
  · exact hl x h
  · subst h; exact hq

/-! ### ThreadGroup -/

structure TG.Inv (s : TG) : Prop where
  count : s.wg = s.running
  waitClosed : 0 < s.waiting → s.closed = true
  retIdle : 0 < s.returned → s.closed = true ∧ s.running = 0

theorem TG.inv_init : TG.Inv {} := ⟨rfl, by simp, by simp⟩

theorem TG.inv_step (s : TG) (a : TGStep) (s' : TG) (h : TG.Inv s) (hs : s.step a = some s') :
    TG.Inv s' := by
  cases a
  case add =>
    rcases ite_cases hs with ⟨_, ⟨⟩⟩ | ⟨hc, ⟨⟩⟩
    · exact { h with }
    · exact { h with
        count := congrArg (· + 1) h.count
        retIdle := fun hr => absurd (h.retIdle hr).1 hc }
  case done =>
    obtain ⟨hg, rfl⟩ := guard_some hs
    exact { h with
      count := congrArg (· - 1) h.count
      retIdle := fun hr => ⟨(h.retIdle hr).1, congrArg (· - 1) (h.retIdle hr).2⟩ }
  case stop =>
    obtain rfl := Option.some.inj hs
    exact { h with
      waitClosed := fun _ => rfl
      retIdle := fun hr => ⟨rfl, (h.retIdle hr).2⟩ }
  case ret =>
    obtain ⟨hg, rfl⟩ := guard_some hs
    exact { h with
      waitClosed := fun _ => h.waitClosed hg.1
      retIdle := fun _ => ⟨h.waitClosed hg.1, h.count ▸ hg.2⟩ }

theorem TG.step_mono {s s' : TG} {a : TGStep} (hs : s.step a = some s') :
    (s.closed = true → s'.closed = true ∧ s'.running ≤ s.running) ∧ s.returned ≤ s'.returned := by
  cases a
  case add =>
    rcases ite_cases hs with ⟨hc, ⟨⟩⟩ | ⟨hn, ⟨⟩⟩
    · exact ⟨fun _ => ⟨hc, Nat.le_refl _⟩, Nat.le_refl _⟩
    · exact ⟨fun hc => absurd hc hn, Nat.le_refl _⟩
  case done =>
    obtain ⟨-, rfl⟩ := guard_some hs
    exact ⟨fun hc => ⟨hc, Nat.sub_le _ _⟩, Nat.le_refl _⟩
  case stop =>
    cases hs
    exact ⟨fun _ => ⟨rfl, Nat.le_refl _⟩, Nat.le_refl _⟩
  case ret =>
    obtain ⟨-, rfl⟩ := guard_some hs
    exact ⟨fun hc => ⟨hc, Nat.le_refl _⟩, Nat.le_succ _⟩

theorem TG.inv_reach (s : TG) (h : tgSys.Reach {} s) : TG.Inv s :=
  Sys.reach_inv tgSys TG.Inv {} TG.inv_init (fun s a s' hi hs => TG.inv_step s a s' hi hs) s h

/-! ### Server -/

theorem Srv.inv_step (s : Srv) (a : SrvStep) (s' : Srv) (h : TG.Inv s.tg) (hs : s.step a = some s') :
    TG.Inv s'.tg := by
  cases a <;> simp only [Srv.step] at hs
  · simp only [Option.some.injEq] at hs; subst hs; exact h
  · split at hs
    · simp only [Option.map_eq_some_iff] at hs
      obtain ⟨t, ht, rfl⟩ := hs
      exact TG.inv_step _ _ _ h ht
    · cases hs
  all_goals
    simp only [Option.map_eq_some_iff] at hs
    obtain ⟨t, ht, rfl⟩ := hs
    exact TG.inv_step _ _ _ h ht

theorem Srv.inv_reach (s : Srv) (h : srvSys.Reach {} s) : TG.Inv s.tg :=
  Sys.reach_inv srvSys (fun s => TG.Inv s.tg) {} TG.inv_init
    (fun s a s' hi hs => Srv.inv_step s a s' hi hs) s h

/-! ### in-flight accounting -/

structure IF.Inv (s : IF) : Prop where
  wg : s.wg = s.others + sumBy PeerSt.tgMembers s.peers
  sem : ∀ p ∈ s.peers, p.sem = p.semHolders ∧ (0 < s.maxPeer → (p.sem : Int) ≤ s.maxPeer) ∧
    (p.loop = .reject → 0 < s.maxSub)
  sub : 0 < s.maxSub → s.subnet = sumBy PeerSt.subHolders s.peers
  subOff : s.maxSub ≤ 0 → s.subnet = 0
  subLe : 0 < s.maxSub → (s.subnet : Int) ≤ s.maxSub
  drop : s.maxSub ≤ 0 → s.dropped = 0
  waitClosed : 0 < s.waiting → s.tgClosed = true
  ret : 0 < s.returned → s.tgClosed = true ∧ s.wg = 0

theorem IF.inv_init (a b : Int) : IF.Inv (IF.init a b) := by
  refine ⟨by simp [IF.init, sumBy], by simp [IF.init], ?_, ?_, ?_, by simp [IF.init], by simp [IF.init],
    by simp [IF.init]⟩
  · simp [IF.init, sumBy]
  · simp [IF.init]
  · intro h; simp only [IF.init] at h ⊢; omega


@[simp] theorem IF.setPeer_maxPeer (s : IF) (i : Nat) (q : PeerSt) : (s.setPeer i q).maxPeer = s.maxPeer := rfl
@[simp] theorem IF.setPeer_maxSub (s : IF) (i : Nat) (q : PeerSt) : (s.setPeer i q).maxSub = s.maxSub := rfl
@[simp] theorem IF.setPeer_tgClosed (s : IF) (i : Nat) (q : PeerSt) : (s.setPeer i q).tgClosed = s.tgClosed := rfl
@[simp] theorem IF.setPeer_wg (s : IF) (i : Nat) (q : PeerSt) : (s.setPeer i q).wg = s.wg := rfl
@[simp] theorem IF.setPeer_others (s : IF) (i : Nat) (q : PeerSt) : (s.setPeer i q).others = s.others := rfl
@[simp] theorem IF.setPeer_waiting (s : IF) (i : Nat) (q : PeerSt) : (s.setPeer i q).waiting = s.waiting := rfl
@[simp] theorem IF.setPeer_returned (s : IF) (i : Nat) (q : PeerSt) : (s.setPeer i q).returned = s.returned := rfl
@[simp] theorem IF.setPeer_subnet (s : IF) (i : Nat) (q : PeerSt) : (s.setPeer i q).subnet = s.subnet := rfl
@[simp] theorem IF.setPeer_dropped (s : IF) (i : Nat) (q : PeerSt) : (s.setPeer i q).dropped = s.dropped := rfl
@[simp] theorem IF.setPeer_peers (s : IF) (i : Nat) (q : PeerSt) : (s.setPeer i q).peers = s.peers.set i q := rfl

/-- does the loop thread hold a slot of its peer's semaphore? -/
def LoopPc.slot : LoopPc → Nat
  | .have | .reject => 1
  | _ => 0

/-- is the loop thread still a member of the thread group? -/
def LoopPc.live : LoopPc → Nat
  | .exited => 0
  | _ => 1

theorem PeerSt.semHolders_eq (p : PeerSt) :
    p.semHolders = p.loop.slot + p.spawned + p.running + p.unwinding + p.relsub := by
  unfold PeerSt.semHolders
  cases p.loop <;> rfl

theorem PeerSt.tgMembers_eq (p : PeerSt) : p.tgMembers = p.loop.live + p.running := by
  unfold PeerSt.tgMembers
  cases p.loop <;> rfl

/-- The general update of the in-flight invariant by a step of peer `i`: its record goes from `p`
to `q`, the group counter to `wg`, the subnet counter to `sub`, the drop count to `dr`.  What has to
be shown is about peer `i` alone: `q` satisfies the per-peer clause (`hsem`, `hmax`, `hrej`), each
counter moves by the peer's share of it (`hwg`, `hsub`), a closed group does not grow (`hclosed`),
and a disabled subnet limit leaves `sub` and `dr` at zero (`hoff`). -/
theorem IF.Inv.setPeer {s : IF} (h : s.Inv) {i : Nat} {p : PeerSt} (hp : s.peers[i]? = some p)
    (q : PeerSt) (wg sub dr : Nat)
    (hsem : p.sem = p.semHolders → q.sem = q.semHolders)
    (hmax : 0 < s.maxPeer → (q.sem : Int) ≤ s.maxPeer) (hrej : q.loop = .reject → 0 < s.maxSub)
    (hwg : p.tgMembers ≤ s.wg → wg + p.tgMembers = s.wg + q.tgMembers)
    (hclosed : s.tgClosed = true → wg ≤ s.wg)
    (hsub : 0 < s.maxSub → sub + p.subHolders = s.subnet + q.subHolders ∧ (sub : Int) ≤ s.maxSub)
    (hoff : s.maxSub ≤ 0 → sub = 0 ∧ dr = 0) :
    IF.Inv { s.setPeer i q with wg := wg, subnet := sub, dropped := dr } := by
  have hmem := List.mem_of_getElem? hp
  have hle : p.tgMembers ≤ s.wg := by
    have := le_sumBy_of_mem PeerSt.tgMembers s.peers p hmem
    have := h.wg
    omega
  exact {
    wg := by
      have := sumBy_set PeerSt.tgMembers s.peers i p q hp
      have := h.wg
      have := hwg hle
      show wg = s.others + sumBy PeerSt.tgMembers (s.peers.set i q)
      omega
    sem := forall_mem_set h.sem ⟨hsem (h.sem p hmem).1, hmax, hrej⟩
    sub := fun h0 => by
      have := sumBy_set PeerSt.subHolders s.peers i p q hp
      have := h.sub h0
      have := (hsub h0).1
      show sub = sumBy PeerSt.subHolders (s.peers.set i q)
      omega
    subOff := fun h0 => (hoff h0).1
    subLe := fun h0 => (hsub h0).2
    drop := fun h0 => (hoff h0).2
    waitClosed := h.waitClosed
    ret := fun hr => ⟨(h.ret hr).1, Nat.eq_zero_of_le_zero ((h.ret hr).2 ▸ hclosed (h.ret hr).1)⟩ }

/-- `IF.Inv.setPeer` for the steps that leave the subnet counter and the drop count alone (all but
`acq` with room, `retSub` and `relSub`): the peer's subnet share must not move. -/
theorem IF.Inv.setPeer_sameSub {s : IF} (h : s.Inv) {i : Nat} {p : PeerSt} (hp : s.peers[i]? = some p)
    (q : PeerSt) (wg : Nat)
    (hsem : p.sem = p.semHolders → q.sem = q.semHolders)
    (hmax : 0 < s.maxPeer → (q.sem : Int) ≤ s.maxPeer) (hrej : q.loop = .reject → 0 < s.maxSub)
    (hwg : p.tgMembers ≤ s.wg → wg + p.tgMembers = s.wg + q.tgMembers)
    (hclosed : s.tgClosed = true → wg ≤ s.wg)
    (hsub : 0 < s.maxSub → q.subHolders = p.subHolders) :
    IF.Inv { s.setPeer i q with wg := wg } :=
  IF.Inv.setPeer h hp q wg s.subnet s.dropped hsem hmax hrej hwg hclosed
    (fun h0 => ⟨congrArg (s.subnet + ·) (hsub h0).symm, h.subLe h0⟩) (fun h0 => ⟨h.subOff h0, h.drop h0⟩)

/-- `IF.Inv.setPeer_sameSub` when only the loop pc changes, to a pc `l` with the same `slot` and `live`. -/
theorem IF.Inv.setPeer_loop {s : IF} (h : s.Inv) {i : Nat} {p : PeerSt} (hp : s.peers[i]? = some p)
    (l : LoopPc) (hslot : l.slot = p.loop.slot) (hlive : l.live = p.loop.live)
    (hrej : l = .reject → 0 < s.maxSub) :
    IF.Inv (s.setPeer i { p with loop := l }) := by
  refine IF.Inv.setPeer_sameSub h hp _ s.wg ?_ (h.sem p (List.mem_of_getElem? hp)).2.1 hrej ?_
    (fun _ => Nat.le_refl _) (fun _ => rfl)
  · simp only [PeerSt.semHolders_eq, hslot]; exact id
  · simp only [PeerSt.tgMembers_eq, hlive]; exact fun _ => trivial

theorem IF.inv_step (s : IF) (a : IFStep) (s' : IF) (h : IF.Inv s) (hs : s.step a = some s') :
    IF.Inv s' := by
  cases a
  case peerStart =>
    rcases ite_cases hs with ⟨_, hs⟩ | ⟨hc, ⟨⟩⟩
    · cases hs
    · exact { h with
        wg := by
          have := h.wg
          have new : sumBy PeerSt.tgMembers [({} : PeerSt)] = 1 := rfl
          dsimp only
          rw [sumBy_append, new]
          omega
        sem := fun p hm => (List.mem_append.mp hm).elim (h.sem p) fun hm => by
          cases List.mem_singleton.mp hm
          exact ⟨rfl, fun h0 => Int.le_of_lt h0, fun hr => nomatch hr⟩
        sub := fun h0 => by
          dsimp only
          rw [sumBy_append]
          exact h.sub h0
        ret := fun hr => absurd (h.ret hr).1 hc }
  case oAdd =>
    rcases ite_cases hs with ⟨_, ⟨⟩⟩ | ⟨hc, ⟨⟩⟩
    · exact h
    · exact { h with
        wg := by have := h.wg; dsimp only; omega
        ret := fun hr => absurd (h.ret hr).1 hc }
  case oDone =>
    obtain ⟨hg, rfl⟩ := guard_some hs
    exact { h with
      wg := by have := h.wg; dsimp only; omega
      ret := fun hr => ⟨(h.ret hr).1, congrArg (· - 1) (h.ret hr).2⟩ }
  case stop =>
    obtain rfl := Option.some.inj hs
    exact { h with
      waitClosed := fun _ => rfl
      ret := fun hr => ⟨rfl, (h.ret hr).2⟩ }
  case ret =>
    obtain ⟨hg, rfl⟩ := guard_some hs
    exact { h with
      waitClosed := fun _ => h.waitClosed hg.1
      ret := fun _ => ⟨h.waitClosed hg.1, hg.2⟩ }
  all_goals
    rename_i i
    simp only [IF.step] at hs
    rcases hp : s.peers[i]? with _ | p <;> simp only [hp] at hs
    · cases hs
    obtain ⟨-, hmax, hrej⟩ := h.sem p (List.mem_of_getElem? hp)
  case want =>
    obtain ⟨hg, rfl⟩ := guard_some hs
    exact h.setPeer_loop hp .want (hg ▸ rfl) (hg ▸ rfl) (fun hr => nomatch hr)
  case take =>
    obtain ⟨⟨hg, hfree⟩, rfl⟩ := guard_some hs
    refine IF.Inv.setPeer_sameSub h hp _ s.wg ?_ ?_ (fun hr => nomatch hr) ?_ (fun _ => Nat.le_refl _) (fun _ => rfl)
    · simp only [PeerSt.semHolders_eq, hg, LoopPc.slot]; omega
    · simp only [IF.semFree, Bool.or_eq_true, decide_eq_true_eq] at hfree; dsimp only; omega
    · simp only [PeerSt.tgMembers_eq, hg]; exact fun _ => rfl
  case sawClosed =>
    obtain ⟨⟨hg, -⟩, rfl⟩ := guard_some hs
    exact h.setPeer_loop hp .closing (hg ▸ rfl) (hg ▸ rfl) (fun hr => nomatch hr)
  case peerExit =>
    obtain ⟨hg, rfl⟩ := guard_some hs
    refine IF.Inv.setPeer_sameSub h hp _ (s.wg - 1) ?_ hmax (fun hr => nomatch hr) ?_ (fun _ => Nat.sub_le _ _) (fun _ => rfl)
    · rcases hg with hg | hg <;> simp only [PeerSt.semHolders_eq, hg] <;> exact id
    · rcases hg with hg | hg <;> simp only [PeerSt.tgMembers_eq, hg, LoopPc.live] <;> omega
  case acq =>
    obtain ⟨hg, hs⟩ := Option.ite_none_right_eq_some.mp hs
    rcases ite_cases hs with ⟨hoff, ⟨⟩⟩ | ⟨hon, hs⟩
    · have hoff : ¬ 0 < s.maxSub := by simpa [IF.subOn] using hoff
      refine IF.Inv.setPeer_sameSub h hp _ s.wg ?_ hmax (fun hr => nomatch hr) ?_ (fun _ => Nat.le_refl _) (fun h0 => absurd h0 hoff)
      · simp only [PeerSt.semHolders_eq, hg, LoopPc.slot]; omega
      · simp only [PeerSt.tgMembers_eq, hg]; exact fun _ => rfl
    · have hon : 0 < s.maxSub := by simpa [IF.subOn] using hon
      rcases ite_cases hs with ⟨hfull, ⟨⟩⟩ | ⟨hroom, ⟨⟩⟩
      · exact h.setPeer_loop hp .reject (hg ▸ rfl) (hg ▸ rfl) (fun _ => hon)
      · refine IF.Inv.setPeer h hp _ s.wg (s.subnet + 1) s.dropped ?_ hmax (fun hr => nomatch hr) ?_ (fun _ => Nat.le_refl _)
          (fun _ => ⟨?_, ?_⟩) (fun h0 => absurd hon (Int.not_lt.mpr h0))
        · simp only [PeerSt.semHolders_eq, hg, LoopPc.slot]; omega
        · simp only [PeerSt.tgMembers_eq, hg]; exact fun _ => rfl
        · simp only [PeerSt.subHolders]; omega
        · omega
  case retSub =>
    obtain ⟨⟨hg, hpos⟩, rfl⟩ := guard_some hs
    refine IF.Inv.setPeer h hp _ s.wg s.subnet (s.dropped + 1) ?_ ?_ (fun hr => nomatch hr) ?_ (fun _ => Nat.le_refl _)
      (fun h0 => ⟨rfl, h.subLe h0⟩) (fun h0 => absurd (hrej hg) (Int.not_lt.mpr h0))
    · simp only [PeerSt.semHolders_eq, hg, LoopPc.slot]; omega
    · intro h0; have := hmax h0; dsimp only; omega
    · simp only [PeerSt.tgMembers_eq, hg]; exact fun _ => rfl
  case hAdd =>
    obtain ⟨hg, hs⟩ := Option.ite_none_right_eq_some.mp hs
    rcases ite_cases hs with ⟨hc, ⟨⟩⟩ | ⟨hc, ⟨⟩⟩
    · refine IF.Inv.setPeer_sameSub h hp _ s.wg ?_ hmax hrej (fun _ => rfl) (fun _ => Nat.le_refl _) (fun _ => ?_)
      · simp only [PeerSt.semHolders_eq]; omega
      · simp only [PeerSt.subHolders]; omega
    · refine IF.Inv.setPeer_sameSub h hp _ (s.wg + 1) ?_ hmax hrej ?_ (fun h' => absurd h' hc) (fun _ => ?_)
      · simp only [PeerSt.semHolders_eq]; omega
      · simp only [PeerSt.tgMembers_eq]; omega
      · simp only [PeerSt.subHolders]; omega
  case hDone =>
    obtain ⟨hg, rfl⟩ := guard_some hs
    refine IF.Inv.setPeer_sameSub h hp _ (s.wg - 1) ?_ hmax hrej ?_ (fun _ => Nat.sub_le _ _) (fun _ => ?_)
    · simp only [PeerSt.semHolders_eq]; omega
    · simp only [PeerSt.tgMembers_eq]; omega
    · simp only [PeerSt.subHolders]; omega
  case relSub =>
    obtain ⟨hg, rfl⟩ := guard_some hs
    refine IF.Inv.setPeer h hp _ s.wg _ s.dropped ?_ hmax hrej (fun _ => rfl) (fun _ => Nat.le_refl _)
      (fun h0 => ?_) (fun h0 => ?_)
    · simp only [PeerSt.semHolders_eq]; omega
    · have hle := le_sumBy_of_mem PeerSt.subHolders s.peers p (List.mem_of_getElem? hp)
      have := h.sub h0
      have := h.subLe h0
      simp only [IF.subOn, decide_eq_true h0, if_true, PeerSt.subHolders] at hle ⊢
      omega
    · have hoff : s.subOn = false := by simpa [IF.subOn] using h0
      simp only [hoff]
      exact ⟨h.subOff h0, h.drop h0⟩
  case relPeer =>
    obtain ⟨hg, rfl⟩ := guard_some hs
    refine IF.Inv.setPeer_sameSub h hp _ s.wg ?_ ?_ hrej (fun _ => rfl) (fun _ => Nat.le_refl _) (fun _ => rfl)
    · simp only [PeerSt.semHolders_eq]; omega
    · intro h0; have := hmax h0; dsimp only; omega

/-! ### peer caps -/

/-- inbound invariant of the repaired code -/
def Caps.InInv (s : Caps) : Prop := 0 < s.inP → (s.inP : Int) ≤ s.maxIn

theorem Caps.inInv_step (s : Caps) (a : CapStep) (s' : Caps) (h : s.InInv)
    (hs : Caps.step true s a = some s') : s'.InInv := by
  cases a
  case allow b =>
    cases b
    · rcases ite_cases hs with ⟨-, hs⟩ | ⟨-, hs⟩
      · cases hs
      · rcases ite_cases hs with ⟨-, ⟨⟩⟩ | ⟨-, ⟨⟩⟩ <;> exact h
    · rcases ite_cases hs with ⟨-, ⟨⟩⟩ | ⟨-, ⟨⟩⟩ <;> exact h
  case add b =>
    cases b
    · obtain ⟨-, rfl⟩ := guard_some hs
      exact h
    · obtain ⟨-, hs⟩ := Option.ite_none_right_eq_some.mp hs
      rcases ite_cases hs with ⟨-, ⟨⟩⟩ | ⟨hroom, ⟨⟩⟩
      · exact h
      · -- the re-check under the acquisition of the insert found room
        have : (s.inP : Int) < s.maxIn := by simpa using hroom
        intro _
        show ((s.inP + 1 : Nat) : Int) ≤ s.maxIn
        omega
  case abandon b =>
    cases b
    all_goals
      obtain ⟨-, rfl⟩ := guard_some hs
      exact h
  case direct =>
    cases hs
    exact h
  case remove b =>
    cases b
    all_goals obtain ⟨hg, rfl⟩ := guard_some hs
    · exact h
    · intro _
      have := h hg
      show ((s.inP - 1 : Nat) : Int) ≤ s.maxIn
      omega

/-- outbound invariant (both versions) as long as no explicit `Connect` is made -/
def Caps.OutInv (s : Caps) : Prop :=
  0 < s.outP + (if s.pendOut then 1 else 0) → ((s.outP + (if s.pendOut then 1 else 0) : Nat) : Int) ≤ s.maxOut

theorem Caps.outInv_step (fixed : Bool) (s : Caps) (a : CapStep) (s' : Caps) (ha : a ≠ .direct)
    (h : s.OutInv) (hs : Caps.step fixed s a = some s') : s'.OutInv := by
  -- while the dialer holds a candidate, there is room for it
  have pend (hp : s.pendOut = true) : ((s.outP + 1 : Nat) : Int) ≤ s.maxOut := by
    have := h
    rw [Caps.OutInv, if_pos hp] at this
    exact this (Nat.succ_pos _)
  cases a
  case allow b =>
    cases b
    · rcases ite_cases hs with ⟨-, hs⟩ | ⟨-, hs⟩
      · cases hs
      · rcases ite_cases hs with ⟨hroom, ⟨⟩⟩ | ⟨-, ⟨⟩⟩
        · intro _
          show ((s.outP + 1 : Nat) : Int) ≤ s.maxOut
          omega
        · exact h
    · rcases ite_cases hs with ⟨-, ⟨⟩⟩ | ⟨-, ⟨⟩⟩ <;> exact h
  case add b =>
    cases b
    · obtain ⟨hp, rfl⟩ := guard_some hs
      exact fun _ => pend hp
    · obtain ⟨-, hs⟩ := Option.ite_none_right_eq_some.mp hs
      rcases ite_cases hs with ⟨-, ⟨⟩⟩ | ⟨-, ⟨⟩⟩ <;> exact h
  case abandon b =>
    cases b
    all_goals obtain ⟨hp, rfl⟩ := guard_some hs
    · intro _
      have := pend hp
      show ((s.outP : Nat) : Int) ≤ s.maxOut
      omega
    · exact h
  case direct => exact absurd rfl ha
  case remove b =>
    cases b
    all_goals obtain ⟨hg, rfl⟩ := guard_some hs
    · intro _
      have := h (Nat.lt_of_lt_of_le hg (Nat.le_add_right _ _))
      show ((s.outP - 1 + (if s.pendOut = true then 1 else 0) : Nat) : Int) ≤ s.maxOut
      omega
    · exact h


/-! ### Run / Close teardown -/

/-- how many loop results `Run` has received -/
def RunPc.recvd : RunPc → Nat
  | .waitFirst => 0
  | .closeL | .sweep | .waitSecond => 1
  | .waitThird => 2
  | .waitPeers | .returning | .done => 3

def LoopSt.exitedN : LoopSt → Nat
  | .exited => 1
  | _ => 0

/-- does the thread still hold its slot of the thread group? -/
def RunPc.live : RunPc → Nat
  | .done => 0
  | _ => 1

def LoopSt.live : LoopSt → Nat
  | .exited => 0
  | _ => 1

/-- `wg`, `bg`, `loops` count the members of the thread group and the loop results `Run` has
received; `tgc`: the group is closed exactly from `Close`'s `tg.Stop` on; `lc`: `Close` closes the
listener first; `ret`: `Close` returns on an empty group; `leak`: the repaired code leaves no
connection behind; `sync`, `ing`: an ingestion goroutine exists only while `syncLoop` runs. -/
structure TD.Inv (fixed : Bool) (s : TD) : Prop where
  wg : s.wg = s.run.live + s.accept.live + s.bgRun + s.bgSend + s.conns + s.sO + s.sC
  bg : s.bgRun + s.bgSend ≤ 2
  loops : s.accept.exitedN + (2 - (s.bgRun + s.bgSend)) = s.run.recvd
  tgc : s.tgClosed = true ↔ (s.close = .waiting ∨ s.close = .returned)
  lc : s.close ≠ .idle → s.lClosed = true
  ret : s.close = .returned → s.wg = 0
  leak : fixed = true → s.leaked = 0
  sync : s.syncRun = true → 0 < s.bgRun
  ing : 0 < s.ingest → s.syncRun = true

theorem TD.inv_init (fixed : Bool) : TD.Inv fixed {} := by
  refine ⟨by decide, by decide, by decide, by decide, by decide, by decide, by intro _; rfl, by decide, by decide⟩

/-- `Run` receives the result of a loop that is sending: it moves to its next receive (or on to
`waitPeers`), the loop leaves the group -/
theorem TD.runRecv_some {fixed : Bool} {s s' : TD} (hs : TD.step fixed s .runRecv = some s') :
    s.run.live = 1 ∧ s'.run.live = 1 ∧ s'.run.recvd = s.run.recvd + 1 ∧
      (s.accept = .sending ∧ s' = { s with accept := .exited, wg := s.wg - 1, run := s'.run } ∨
       0 < s.bgSend ∧ s' = { s with bgSend := s.bgSend - 1, wg := s.wg - 1, run := s'.run }) := by
  simp only [TD.step] at hs
  cases hr : s.run <;> simp only [hr] at hs
  case waitFirst | waitSecond | waitThird =>
    rcases ite_cases hs with ⟨hacc, ⟨⟩⟩ | ⟨_, hs⟩
    · exact ⟨rfl, rfl, rfl, Or.inl ⟨hacc, rfl⟩⟩
    · obtain ⟨hb, rfl⟩ := guard_some hs
      exact ⟨rfl, rfl, rfl, Or.inr ⟨hb, rfl⟩⟩
  all_goals cases hs

/-- connections and peers come, go and change state while the loops and `Run` stay where they are:
the invariant is kept if the group counter moves with the number of members among them (connection
goroutines and serving peers), and does not grow once the group is closed -/
theorem TD.Inv.peers {fixed : Bool} {s : TD} (h : TD.Inv fixed s) {w c aO aC sO sC un : Nat}
    (hm : s.conns + s.sO + s.sC ≤ s.wg → w + (s.conns + s.sO + s.sC) = s.wg + (c + sO + sC))
    (hclosed : s.tgClosed = true → w ≤ s.wg) :
    TD.Inv fixed { s with wg := w, conns := c, aO := aO, aC := aC, sO := sO, sC := sC, un := un } :=
  { h with
    wg := by
      have := h.wg
      have := hm (by omega)
      show w = s.run.live + s.accept.live + s.bgRun + s.bgSend + c + sO + sC
      omega
    ret := fun hr => Nat.eq_zero_of_le_zero (h.ret hr ▸ hclosed (h.tgc.mpr (Or.inr hr))) }

/-- `Run` or the accept loop moves on without leaving the group or handing over a result -/
theorem TD.Inv.pcs {fixed : Bool} {s : TD} (h : TD.Inv fixed s) {run : RunPc} {accept : LoopSt} {lc : Bool}
    (hrun : run.live = s.run.live ∧ run.recvd = s.run.recvd)
    (hacc : accept.live = s.accept.live ∧ accept.exitedN = s.accept.exitedN)
    (hlc : s.lClosed = true → lc = true) :
    TD.Inv fixed { s with lClosed := lc, run := run, accept := accept } :=
  { h with
    wg := by rw [hrun.1, hacc.1]; exact h.wg
    loops := by rw [hrun.2, hacc.2]; exact h.loops
    lc := fun hc => hlc (h.lc hc) }

/-- a context loop returns and offers its result to `Run`; `sr` says whether `syncLoop` is still
among the running ones afterwards -/
theorem TD.Inv.bgReturns {fixed : Bool} {s : TD} (h : TD.Inv fixed s) (hb : 0 < s.bgRun) {sr : Bool}
    (hsr : sr = true → 1 < s.bgRun) (hing : 0 < s.ingest → sr = true) :
    TD.Inv fixed { s with syncRun := sr, bgRun := s.bgRun - 1, bgSend := s.bgSend + 1 } :=
  { h with
    wg := by have := h.wg; dsimp only; omega
    bg := by have := h.bg; dsimp only; omega
    loops := by have := h.loops; dsimp only; omega
    sync := fun hs => Nat.lt_sub_of_add_lt (hsr hs)
    ing := hing }

theorem TD.inv_step (fixed : Bool) (s : TD) (a : TDStep) (s' : TD) (h : TD.Inv fixed s)
    (hs : TD.step fixed s a = some s') : TD.Inv fixed s' := by
  cases a
  case connStart =>
    rcases ite_cases hs with ⟨_, ⟨⟩⟩ | ⟨hc, ⟨⟩⟩
    · exact h
    · exact h.peers (fun _ => by omega) (fun hc' => absurd hc' hc)
  case connFail | connAdd | peerErr =>
    obtain ⟨hg, rfl⟩ := guard_some hs
    exact h.peers (fun _ => by omega) (fun _ => Nat.sub_le _ _)
  case peerAdd b =>
    cases b
    all_goals
      obtain ⟨hg, hs⟩ := Option.ite_none_right_eq_some.mp hs
      rcases ite_cases hs with ⟨hc, hs⟩ | ⟨hc, ⟨⟩⟩
    · cases hs
      exact h.peers (fun _ => rfl) (fun _ => Nat.le_refl _)
    · exact h.peers (fun _ => by omega) (fun hc' => absurd hc' hc)
    · rcases ite_cases hs with ⟨_, ⟨⟩⟩ | ⟨hf, ⟨⟩⟩
      · exact h.peers (fun _ => rfl) (fun _ => Nat.le_refl _)
      · exact { h with leak := fun hf' => absurd hf' hf }
    · exact h.peers (fun _ => by omega) (fun hc' => absurd hc' hc)
  case peerRemove =>
    obtain ⟨hg, rfl⟩ := guard_some hs
    exact h.peers (fun _ => rfl) (fun _ => Nat.le_refl _)
  case remoteClose b =>
    cases b
    all_goals obtain ⟨hg, rfl⟩ := guard_some hs
    · exact h.peers (fun _ => rfl) (fun _ => Nat.le_refl _)
    · exact h.peers (fun _ => by omega) (fun _ => Nat.le_refl _)
  case watch =>
    obtain ⟨hg, rfl⟩ := guard_some hs
    exact h.peers (fun _ => by omega) (fun _ => Nat.le_refl _)
  case acceptExit =>
    obtain ⟨hg, rfl⟩ := guard_some hs
    exact h.pcs ⟨rfl, rfl⟩ (hg.1 ▸ ⟨rfl, rfl⟩) id
  case bgExit b =>
    cases b
    all_goals obtain ⟨hg, rfl⟩ := guard_some hs
    · exact h.bgReturns (Nat.zero_lt_of_lt hg.1) (fun hsr => by have := hg.1; rwa [if_pos hsr] at this) h.ing
    · exact h.bgReturns hg.2.2.2 (fun hsr => nomatch hsr) (fun hi => absurd (hg.2.1 ▸ hi) (Nat.lt_irrefl 0))
  case bgFail =>
    obtain ⟨hg, rfl⟩ := guard_some hs
    exact h.bgReturns hg.2.2 (fun hsr => nomatch hsr) (fun hi => absurd (hg.2.1 ▸ hi) (Nat.lt_irrefl 0))
  case syncStart =>
    obtain ⟨hg, rfl⟩ := guard_some hs
    exact { h with ing := fun _ => hg.1 }
  case ingestDone =>
    obtain ⟨hg, rfl⟩ := guard_some hs
    exact { h with ing := fun hi => h.ing (Nat.lt_of_lt_of_le hi (Nat.sub_le _ _)) }
  case envCloseL =>
    cases hs
    exact h.pcs ⟨rfl, rfl⟩ ⟨rfl, rfl⟩ (fun _ => rfl)
  case runRecv =>
    obtain ⟨hl, hl', hr', ⟨hacc, hs'⟩ | ⟨hb, hs'⟩⟩ := TD.runRecv_some hs
    · exact hs' ▸ { h with
        wg := by have := h.wg; rw [hacc] at this; simp only [LoopSt.live] at this ⊢; omega
        loops := by have := h.loops; rw [hacc] at this; simp only [LoopSt.exitedN] at this ⊢; omega
        ret := fun hr => congrArg (· - 1) (h.ret hr) }
    · exact hs' ▸ { h with
        wg := by have := h.wg; dsimp only; omega
        bg := by have := h.bg; dsimp only; omega
        loops := by have := h.loops; have := h.bg; dsimp only; omega
        ret := fun hr => congrArg (· - 1) (h.ret hr) }
  case runCloseL =>
    obtain ⟨hg, rfl⟩ := guard_some hs
    exact h.pcs (hg ▸ ⟨rfl, rfl⟩) ⟨rfl, rfl⟩ (fun _ => rfl)
  case runSweep =>
    obtain ⟨hg, rfl⟩ := guard_some hs
    exact (h.pcs (run := .waitSecond) (hg ▸ ⟨rfl, rfl⟩) ⟨rfl, rfl⟩ id).peers (fun _ => by dsimp only; omega)
      (fun _ => Nat.le_refl _)
  case runPeersDone =>
    obtain ⟨hg, rfl⟩ := guard_some hs
    exact h.pcs (hg.1 ▸ ⟨rfl, rfl⟩) ⟨rfl, rfl⟩ id
  case runReturn =>
    obtain ⟨hg, rfl⟩ := guard_some hs
    exact { h with
      wg := by have := h.wg; rw [hg] at this; simp only [RunPc.live] at this ⊢; omega
      loops := by have := h.loops; rw [hg] at this; exact this
      ret := fun hr => congrArg (· - 1) (h.ret hr) }
  case closeL =>
    obtain ⟨hg, rfl⟩ := guard_some hs
    exact { h with
      tgc := by have := h.tgc; rw [hg] at this; simpa using this
      lc := fun _ => rfl
      ret := fun hr => nomatch hr }
  case closeStop =>
    obtain ⟨hg, rfl⟩ := guard_some hs
    exact { h with
      tgc := ⟨fun _ => Or.inl rfl, fun _ => rfl⟩
      lc := fun _ => h.lc (by simp [hg])
      ret := fun hr => nomatch hr }
  case closeRet =>
    obtain ⟨hg, rfl⟩ := guard_some hs
    exact { h with
      tgc := ⟨fun _ => Or.inr rfl, fun _ => h.tgc.mpr (Or.inl hg.1)⟩
      lc := fun _ => h.lc (by simp [hg.1])
      ret := fun _ => hg.2 }

theorem TD.runRecv_enabled {fixed : Bool} {s : TD}
    (hr : s.run = .waitFirst ∨ s.run = .waitSecond ∨ s.run = .waitThird)
    (hl : s.accept = .sending ∨ 0 < s.bgSend) : (TD.step fixed s .runRecv).isSome = true := by
  simp only [TD.step]
  rcases hr with hr | hr | hr <;> simp only [hr] <;> split
  all_goals first
    | rfl
    | exact guard_isSome (hl.resolve_left ‹_›)

theorem TD.canProgress_of {fixed : Bool} {s : TD} (a : TDStep)
    (he : (TD.step fixed s a).isSome = true) (ha : a ∈ TD.progressSteps := by decide) :
    TD.canProgress fixed s = true :=
  List.any_eq_true.mpr ⟨a, ha, he⟩

theorem TD.progress_or_stuck (fixed : Bool) (s : TD) (h : TD.Inv fixed s) (hc : s.close = .waiting) :
    TD.canProgress fixed s = true ∨ (fixed = false ∧ 0 < s.sO) := by
  obtain ⟨hwg, hbg, hloops, htgc, hlc, hret, hleak, hsync, hing⟩ := h
  have htg : s.tgClosed = true := htgc.mpr (Or.inl hc)
  have hl : s.lClosed = true := hlc (by simp [hc])
  by_cases h0 : s.wg = 0
  · left; exact TD.canProgress_of .closeRet (guard_isSome ⟨hc, h0⟩)
  by_cases h1 : 0 < s.conns
  · left; exact TD.canProgress_of .connFail (guard_isSome h1)
  by_cases h2 : 0 < s.sC
  · left; exact TD.canProgress_of .peerErr (guard_isSome h2)
  by_cases h3 : 0 < s.sO
  · cases fixed
    · right; exact ⟨rfl, h3⟩
    · left; exact TD.canProgress_of .watch (guard_isSome ⟨rfl, htg, h3⟩)
  left
  by_cases h4 : s.accept = .running
  · exact TD.canProgress_of .acceptExit (guard_isSome ⟨h4, hl⟩)
  by_cases h5 : 0 < s.bgRun
  · -- a context loop is running: peerLoop can return; syncLoop can return unless a sync round is
    -- in progress, in which case the round's ingestion goroutine can finish
    by_cases hp : (if s.syncRun then 1 else 0) < s.bgRun
    · exact TD.canProgress_of (.bgExit false) (guard_isSome ⟨hp, htg⟩)
    · by_cases hi : 0 < s.ingest
      · exact TD.canProgress_of .ingestDone (guard_isSome hi)
      · have hsr : s.syncRun = true := by
          cases hs : s.syncRun
          · simp [hs] at hp; omega
          · rfl
        exact TD.canProgress_of (.bgExit true) (guard_isSome ⟨hsr, by omega, htg, h5⟩)
  by_cases h6 : s.accept = .sending ∨ 0 < s.bgSend
  · -- a loop is waiting to hand over its result: Run is before its third receive
    have hlt : s.run.recvd < 3 := by
      rcases h6 with h6 | h6
      · simp [h6, LoopSt.exitedN] at hloops; omega
      · cases hacc : s.accept <;> simp [hacc, LoopSt.exitedN] at hloops <;> omega
    cases hr : s.run <;> simp [hr, RunPc.recvd] at hlt
    · exact TD.canProgress_of .runRecv (TD.runRecv_enabled (by simp [hr]) h6)
    · exact TD.canProgress_of .runCloseL (guard_isSome hr)
    · exact TD.canProgress_of .runSweep (guard_isSome hr)
    · exact TD.canProgress_of .runRecv (TD.runRecv_enabled (by simp [hr]) h6)
    · exact TD.canProgress_of .runRecv (TD.runRecv_enabled (by simp [hr]) h6)
  · -- all three loops have exited
    have hacc : s.accept = .exited := by
      cases hacc : s.accept <;> simp_all
    have hbs : s.bgSend = 0 := by omega
    have hbr : s.bgRun = 0 := by omega
    cases hr : s.run <;>
      simp [hr, hacc, RunPc.recvd, RunPc.live, LoopSt.live, LoopSt.exitedN, hbs, hbr] at hloops hwg
    · -- waitPeers
      by_cases h7 : 0 < s.un
      · exact TD.canProgress_of .peerRemove (guard_isSome h7)
      by_cases h8 : 0 < s.aO
      · exact TD.canProgress_of (.peerAdd true) (by
          simp [TD.step, h8, htg]; cases fixed <;> simp)
      by_cases h9 : 0 < s.aC
      · exact TD.canProgress_of (.peerAdd false) (by simp [TD.step, h9, htg])
      · exact TD.canProgress_of .runPeersDone (guard_isSome ⟨hr, by simp only [TD.mapSize]; omega⟩)
    · exact TD.canProgress_of .runReturn (guard_isSome hr)
    · omega


theorem TD.inv_reach (fixed : Bool) (s : TD) (h : (tdSys fixed).Reach {} s) : TD.Inv fixed s :=
  Sys.reach_inv (tdSys fixed) (TD.Inv fixed) {} (TD.inv_init fixed)
    (fun s a s' hi hs => TD.inv_step fixed s a s' hi hs) s h

/-! ### what the steps leave alone -/

/-- the peer whose thread takes the step, if it is a step of a peer's `runPeer` loop or of one of
its handlers -/
def IFStep.peer? : IFStep → Option Nat
  | .want i | .take i | .sawClosed i | .peerExit i | .acq i | .retSub i | .hAdd i | .hDone i
  | .relSub i | .relPeer i => some i
  | _ => none

theorem IF.step_frame {s s' : IF} {a : IFStep} (hs : s.step a = some s') :
    s'.maxPeer = s.maxPeer ∧ s'.maxSub = s.maxSub ∧ (s'.dropped = s.dropped ∨ ∃ i, a = .retSub i) ∧
      (s'.peers = s.peers ∨ s'.peers = s.peers ++ [({} : PeerSt)] ∨
        ∃ i p q, a.peer? = some i ∧ s.peers[i]? = some p ∧ s'.peers = s.peers.set i q) := by
  cases a
  case peerStart =>
    rcases ite_cases hs with ⟨_, hs⟩ | ⟨_, ⟨⟩⟩
    · cases hs
    · exact ⟨rfl, rfl, Or.inl rfl, Or.inr (Or.inl rfl)⟩
  case oAdd =>
    rcases ite_cases hs with ⟨_, ⟨⟩⟩ | ⟨_, ⟨⟩⟩ <;> exact ⟨rfl, rfl, Or.inl rfl, Or.inl rfl⟩
  case oDone | ret =>
    obtain ⟨_, rfl⟩ := guard_some hs
    exact ⟨rfl, rfl, Or.inl rfl, Or.inl rfl⟩
  case stop =>
    obtain rfl := Option.some.inj hs
    exact ⟨rfl, rfl, Or.inl rfl, Or.inl rfl⟩
  case retSub i =>
    simp only [IF.step] at hs
    rcases hp : s.peers[i]? with _ | p <;> simp only [hp] at hs
    · cases hs
    obtain ⟨_, rfl⟩ := guard_some hs
    exact ⟨rfl, rfl, Or.inr ⟨i, rfl⟩, Or.inr (Or.inr ⟨i, p, _, rfl, hp, rfl⟩)⟩
  all_goals
    rename_i i
    simp only [IF.step] at hs
    rcases hp : s.peers[i]? with _ | p <;> simp only [hp] at hs
    · cases hs
  case acq | hAdd =>
    repeat' split at hs
    all_goals cases hs <;> exact ⟨rfl, rfl, Or.inl rfl, Or.inr (Or.inr ⟨i, p, _, rfl, hp, rfl⟩)⟩
  all_goals
    obtain ⟨_, rfl⟩ := guard_some hs
    exact ⟨rfl, rfl, Or.inl rfl, Or.inr (Or.inr ⟨i, p, _, rfl, hp, rfl⟩)⟩

theorem IF.reach_params (a b : Int) (s : IF) (h : ifSys.Reach (IF.init a b) s) :
    s.maxPeer = a ∧ s.maxSub = b :=
  Sys.reach_inv ifSys (fun s => s.maxPeer = a ∧ s.maxSub = b) (IF.init a b) ⟨rfl, rfl⟩
    (fun s x s' hi hs => by
      have := IF.step_frame hs
      exact ⟨this.1.trans hi.1, this.2.1.trans hi.2⟩) s h

theorem IF.inv_reach (a b : Int) (s : IF) (h : ifSys.Reach (IF.init a b) s) : IF.Inv s :=
  Sys.reach_inv ifSys IF.Inv (IF.init a b) (IF.inv_init a b)
    (fun s x s' hi hs => IF.inv_step s x s' hi hs) s h

theorem Caps.step_params (fixed : Bool) (s : Caps) (a : CapStep) (s' : Caps)
    (hs : Caps.step fixed s a = some s') : s'.maxIn = s.maxIn ∧ s'.maxOut = s.maxOut := by
  cases a <;> (try rename_i b; cases b) <;> simp only [Caps.step] at hs
  all_goals (repeat' split at hs)
  all_goals first
    | contradiction
    | (simp only [Option.some.injEq] at hs; subst hs; exact ⟨rfl, rfl⟩)

/-! ### sequentially issued requests never stall -/

structure SeqHOL.Inv (s : SeqHOL) : Prop where
  sem : s.sem = s.running + (if s.cur = .waitWire ∨ s.cur = .waitHeld then 1 else 0)

theorem SeqHOL.inv_step (s : SeqHOL) (a : SeqStep) (s' : SeqHOL) (h : SeqHOL.Inv s)
    (hs : s.step a = some s') : SeqHOL.Inv s' := by
  -- `sem` counts the running handlers plus the one RPC that holds a slot while it waits for its
  -- request: `take` adds it, `readReq` turns it into a running one, `finish` removes a running one
  obtain ⟨h1⟩ := h
  cases a <;> simp only [SeqHOL.step] at hs
  all_goals (repeat' split at hs)
  all_goals first
    | contradiction
    | (simp only [Option.some.injEq] at hs; subst hs
       constructor
       simp_all
       try omega)

theorem SeqHOL.step_limit (s : SeqHOL) (a : SeqStep) (s' : SeqHOL) (hs : s.step a = some s') :
    s'.limit = s.limit := by
  cases a <;> simp only [SeqHOL.step] at hs
  all_goals (repeat' split at hs)
  all_goals first
    | contradiction
    | (simp only [Option.some.injEq] at hs; subst hs; rfl)

/-! ### `SeqHOL` is the sequential-issue restriction of `HOL` -/

theorem rpc_count_set (r : RpcPc) :
    ∀ (l : List RpcPc) (i : Nat) (a b : RpcPc), l[i]? = some a →
      (l.set i b).count r + (if a = r then 1 else 0) = l.count r + (if b = r then 1 else 0) := by
  intro l
  induction l with
  | nil => intro i a b h; simp at h
  | cons x xs ih =>
    intro i a b h
    cases i with
    | zero =>
      simp only [List.getElem?_cons_zero, Option.some.injEq] at h
      subst h
      simp only [List.set_cons_zero, List.count_cons, beq_iff_eq]
      split <;> split <;> omega
    | succ j =>
      simp only [List.getElem?_cons_succ] at h
      have := ih j a b h
      simp only [List.set_cons_succ, List.count_cons]
      omega

theorem lt_of_getElem? {α : Type} {l : List α} {i : Nat} {a : α} (h : l[i]? = some a) : i < l.length :=
  (List.getElem?_eq_some_iff.mp h).1

theorem getElem?_set_self_of_some {α : Type} {l : List α} {i : Nat} {a b : α} (h : l[i]? = some a) :
    (l.set i b)[i]? = some b :=
  List.getElem?_set_self (lt_of_getElem? h)

theorem count_pos_of_getElem? {α : Type} [BEq α] [LawfulBEq α] {r : α} {l : List α} {i : Nat}
    (h : l[i]? = some r) : 0 < l.count r :=
  List.count_pos_iff.mpr (List.mem_of_getElem? h)

theorem getElem?_of_count_pos {α : Type} [BEq α] [LawfulBEq α] (r : α) (l : List α) (h : 0 < l.count r) :
    ∃ i : Nat, l[i]? = some r :=
  List.mem_iff_getElem?.mp (List.count_pos_iff.mp h)

/-- changing the pc of the RPC in transit, neither value being `running`, leaves the RPCs before
it, those behind it and the number of running ones as they were -/
theorem rpc_set_cur {st : List RpcPc} {n c r : Nat} {a : RpcPc} (b : RpcPc) (hk : st[c]? = some a)
    (ha : a ≠ .running) (hb : b ≠ .running)
    (hpre : ∀ k : Nat, k < c → st[k]? = some .running ∨ st[k]? = some .done)
    (hpost : ∀ k : Nat, c < k → k < n → st[k]? = some .fresh) (hcnt : st.count .running = r) :
    (∀ k : Nat, k < c → (st.set c b)[k]? = some .running ∨ (st.set c b)[k]? = some .done) ∧
      (∀ k : Nat, c < k → k < n → (st.set c b)[k]? = some .fresh) ∧
      (st.set c b).count .running = r := by
  refine ⟨fun k hk' => ?_, fun k hk' hn => ?_, ?_⟩
  · rw [List.getElem?_set_ne (by omega)]
    exact hpre k hk'
  · rw [List.getElem?_set_ne (by omega)]
    exact hpost k hk' hn
  · have := rpc_count_set .running st c a b hk
    rw [if_neg ha, if_neg hb] at this
    exact this.trans hcnt

/-- the pc of an RPC follows from its position relative to the one in transit (index `c`), except
at `c` itself -/
theorem rpc_get_cases {st : List RpcPc} {n c k : Nat} {x : RpcPc} (hlen : st.length = n)
    (hpre : ∀ k : Nat, k < c → st[k]? = some .running ∨ st[k]? = some .done)
    (hpost : ∀ k : Nat, c < k → k < n → st[k]? = some .fresh) (hk : st[k]? = some x) :
    k < c ∧ (x = .running ∨ x = .done) ∨ k = c ∨ c < k ∧ x = .fresh := by
  have eq {y : RpcPc} (h : st[k]? = some y) : x = y := Option.some.inj (hk.symm.trans h)
  rcases Nat.lt_trichotomy k c with hlt | heq | hgt
  · exact Or.inl ⟨hlt, (hpre k hlt).imp eq eq⟩
  · exact Or.inr (Or.inl heq)
  · exact Or.inr (Or.inr ⟨hgt, eq (hpost k hgt (hlen ▸ lt_of_getElem? hk))⟩)

/-- what the state of the RPC in transit (`q.cur`) says about the `HOL` state; `c` is the index of
that RPC (the number of RPCs that have received their whole input) -/
def HolPhase (n c : Nat) (h : HOL) (q : SeqHOL) : Prop :=
  match q.cur with
  | .none => c + q.todo = n ∧ h.held = none ∧ h.wire = seqFrom c q.todo ∧ (c < n → h.st[c]? = some .fresh)
  | .idHeld => c + 1 + q.todo = n ∧ h.held = some (.id c) ∧ h.wire = .req c :: seqFrom (c + 1) q.todo ∧
      h.st[c]? = some .fresh
  | .accWire => c + 1 + q.todo = n ∧ h.held = none ∧ h.wire = .req c :: seqFrom (c + 1) q.todo ∧
      h.st[c]? = some .accepted
  | .accHeld => c + 1 + q.todo = n ∧ h.held = some (.req c) ∧ h.wire = seqFrom (c + 1) q.todo ∧
      h.st[c]? = some .accepted
  | .waitWire => c + 1 + q.todo = n ∧ h.held = none ∧ h.wire = .req c :: seqFrom (c + 1) q.todo ∧
      h.st[c]? = some .waitingReq
  | .waitHeld => c + 1 + q.todo = n ∧ h.held = some (.req c) ∧ h.wire = seqFrom (c + 1) q.todo ∧
      h.st[c]? = some .waitingReq

/-- the abstraction relation between a state of `HOL` on the sequential wire of `n` requests and a
state of `SeqHOL` -/
def HolRel (n : Nat) (h : HOL) (q : SeqHOL) : Prop :=
  ∃ c : Nat,
    h.limit = q.limit ∧ h.sem = q.sem ∧ h.st.length = n ∧
    (∀ k : Nat, k < c → h.st[k]? = some .running ∨ h.st[k]? = some .done) ∧
    (∀ k : Nat, c < k → k < n → h.st[k]? = some .fresh) ∧
    h.st.count .running = q.running ∧
    q.sem = q.running + (if q.cur = .waitWire ∨ q.cur = .waitHeld then 1 else 0) ∧
    HolPhase n c h q

theorem HolRel.inv {n : Nat} {h : HOL} {q : SeqHOL} (hr : HolRel n h q) : SeqHOL.Inv q :=
  let ⟨_, _, _, _, _, _, _, hsem, _⟩ := hr
  ⟨hsem⟩

theorem holRel_init (limit n : Nat) :
    HolRel n (HOL.init limit (seqWire n) n) { limit := limit, todo := n } := by
  refine ⟨0, rfl, rfl, by simp [HOL.init], ?_, ?_, ?_, by simp, ?_⟩
  · intro k hk; omega
  · intro k _ hk; simp [HOL.init, hk]
  · simp [HOL.init, List.count_replicate]
  · simp [HolPhase, HOL.init, seqWire]
    intro h0; simp [h0]

/-- Forward simulation: each `HOL` step from related states is matched by exactly one `SeqHOL` step
(`deliver` by `deliverId` or `deliverReq` according to the phase, the others by the step of the same
name).  The index `c` of the RPC in transit advances only at `readReq`. -/
theorem hol_sim (n : Nat) (h h' : HOL) (q : SeqHOL) (a : HOLStep) (hr : HolRel n h q)
    (hs : h.step a = some h') : ∃ b q', q.step b = some q' ∧ HolRel n h' q' := by
  obtain ⟨c, hlim, hsem, hlen, hpre, hpost, hcnt, hq, hph⟩ := hr
  cases a <;> simp only [HOL.step] at hs
  case deliver =>
    split at hs
    case h_2 => cases hs
    case h_1 f rest hheld hwire =>
      simp only [Option.some.injEq] at hs; subst hs
      cases hc : q.cur <;> simp only [HolPhase, hc] at hph
      case none =>
        -- the next id frame
        obtain ⟨h1, _, h3, h4⟩ := hph
        cases ht : q.todo with
        | zero => rw [ht] at h3; simp [seqFrom, hwire] at h3
        | succ t =>
          rw [ht, hwire] at h3
          simp only [seqFrom, List.cons.injEq] at h3
          obtain ⟨rfl, rfl⟩ := h3
          refine ⟨.deliverId, { q with cur := .idHeld, todo := q.todo - 1 }, by simp [SeqHOL.step, hc, ht], ?_⟩
          refine ⟨c, hlim, hsem, hlen, hpre, hpost, hcnt, by simpa [hc] using hq, ?_⟩
          have h4' := h4 (by omega)
          simp only [HolPhase, ht]
          exact ⟨by omega, trivial, rfl, h4'⟩
      case accWire | waitWire =>
        -- the request frame; `q.step` gives the pc: `accHeld`, `waitHeld`
        obtain ⟨h1, _, h3, h4⟩ := hph
        rw [hwire] at h3
        simp only [List.cons.injEq] at h3
        obtain ⟨rfl, rfl⟩ := h3
        refine ⟨.deliverReq, _, by simp only [SeqHOL.step, hc]; rfl, ?_⟩
        refine ⟨c, hlim, hsem, hlen, hpre, hpost, hcnt, by simpa [hc] using hq, ?_⟩
        simp only [HolPhase]
        exact ⟨h1, trivial, trivial, h4⟩
      all_goals exact absurd hph.2.1 (by simp [hheld])
  case acceptID k =>
    split at hs
    case isFalse => cases hs
    case isTrue hg =>
      obtain ⟨hheld, hk, _⟩ := hg
      simp only [Option.some.injEq] at hs; subst hs
      cases hc : q.cur <;> simp only [HolPhase, hc] at hph
      case idHeld =>
        obtain ⟨h1, h2, h3, h4⟩ := hph
        have hkc : k = c := by rw [hheld] at h2; simpa using h2
        subst hkc
        refine ⟨.acceptID, { q with cur := .accWire }, by simp [SeqHOL.step, hc], ?_⟩
        obtain ⟨hpre', hpost', hcnt'⟩ :=
          rpc_set_cur .accepted hk (by decide) (by decide) hpre hpost hcnt
        exact ⟨k, hlim, hsem, by simpa using hlen, hpre', hpost', hcnt', by simpa [hc] using hq,
          h1, rfl, h3, getElem?_set_self_of_some hk⟩
      all_goals (exfalso; have h2 := hph.2.1; rw [hheld] at h2; cases h2)
  case take k =>
    split at hs
    case isFalse => cases hs
    case isTrue hg =>
      obtain ⟨hk, hfree⟩ := hg
      simp only [Option.some.injEq] at hs; subst hs
      -- the accepted stream is the one in transit
      have hkc : k = c := by
        rcases rpc_get_cases hlen hpre hpost hk with ⟨-, h' | h'⟩ | heq | ⟨-, h'⟩
        · cases h'
        · cases h'
        · exact heq
        · cases h'
      subst hkc
      cases hc : q.cur <;> simp only [HolPhase, hc] at hph
      case none => rw [hph.2.2.2 (by have := lt_of_getElem? hk; omega)] at hk; cases hk
      case accWire | accHeld =>
        -- `q.step` gives the pc: `waitWire`, `waitHeld`
        obtain ⟨h1, h2, h3, h4⟩ := hph
        have hfree' : q.sem < q.limit := by omega
        refine ⟨.take, _, by simp only [SeqHOL.step, hc, if_pos hfree']; rfl, ?_⟩
        obtain ⟨hpre', hpost', hcnt'⟩ :=
          rpc_set_cur .waitingReq hk (by decide) (by decide) hpre hpost hcnt
        exact ⟨k, hlim, by simp only; omega, by simpa using hlen, hpre', hpost', hcnt',
          by simp [hc] at hq ⊢; omega, h1, h2, h3, getElem?_set_self_of_some hk⟩
      all_goals (rw [hph.2.2.2] at hk; cases hk)
  case readReq k =>
    split at hs
    case isFalse => cases hs
    case isTrue hg =>
      obtain ⟨hheld, hk⟩ := hg
      simp only [Option.some.injEq] at hs; subst hs
      cases hc : q.cur <;> simp only [HolPhase, hc] at hph
      case waitHeld =>
        obtain ⟨h1, h2, h3, h4⟩ := hph
        have hkc : k = c := by rw [hheld] at h2; simpa using h2
        subst hkc
        refine ⟨.readReq, { q with cur := .none, running := q.running + 1 }, by simp [SeqHOL.step, hc], ?_⟩
        refine ⟨k + 1, hlim, hsem, by simpa using hlen, ?_, ?_, ?_, by simp [hc] at hq ⊢; omega, ?_⟩
        · intro j hj
          simp only
          by_cases hjk : j = k
          · subst hjk; left; exact getElem?_set_self_of_some hk
          · rw [List.getElem?_set_ne (by omega)]; exact hpre j (by omega)
        · intro j hj hjn; simp only; rw [List.getElem?_set_ne (by omega)]; exact hpost j (by omega) hjn
        · have := rpc_count_set .running h.st k .waitingReq .running hk
          simp at this; simp only; omega
        · simp only [HolPhase]
          refine ⟨by omega, trivial, h3, ?_⟩
          intro hlt; rw [List.getElem?_set_ne (by omega)]; exact hpost (k + 1) (by omega) hlt
      case accHeld =>
        exfalso
        have h2 := hph.2.1; rw [hheld] at h2
        have hkc : k = c := by simpa using h2
        subst hkc
        rw [hph.2.2.2] at hk; cases hk
      all_goals (exfalso; have h2 := hph.2.1; rw [hheld] at h2; cases h2)
  case finish k =>
    split at hs
    case isFalse => cases hs
    case isTrue hk =>
      simp only [Option.some.injEq] at hs; subst hs
      have hpos := count_pos_of_getElem? hk
      have hklt : k < c := by
        rcases rpc_get_cases hlen hpre hpost hk with ⟨hlt, -⟩ | heq | ⟨-, h'⟩
        · exact hlt
        · exfalso; subst heq
          cases hc : q.cur <;> simp only [HolPhase, hc] at hph
          · have := hph.2.2.2 (by have := lt_of_getElem? hk; omega); rw [this] at hk; cases hk
          all_goals (rw [hph.2.2.2] at hk; cases hk)
        · cases h'
      refine ⟨.finish, { q with running := q.running - 1, doneN := q.doneN + 1, sem := q.sem - 1 }, by
        simp [SeqHOL.step]; omega, ?_⟩
      refine ⟨c, hlim, by simp only; omega, by simpa using hlen, ?_, ?_, ?_, ?_, ?_⟩
      · intro j hj
        simp only
        by_cases hjk : j = k
        · subst hjk; right; exact getElem?_set_self_of_some hk
        · rw [List.getElem?_set_ne (by omega)]; exact hpre j hj
      · intro j hj hjn; simp only; rw [List.getElem?_set_ne (by omega)]; exact hpost j hj hjn
      · have := rpc_count_set .running h.st k .running .done hk
        simp at this; simp only; omega
      · simp only; split at hq <;> simp_all <;> omega
      · cases hc : q.cur <;> simp only [HolPhase, hc] at hph ⊢
        · refine ⟨hph.1, hph.2.1, hph.2.2.1, ?_⟩
          intro hlt; rw [List.getElem?_set_ne (by omega)]; exact hph.2.2.2 hlt
        all_goals
          refine ⟨hph.1, hph.2.1, hph.2.2.1, ?_⟩
          rw [List.getElem?_set_ne (by omega)]; exact hph.2.2.2

/-- every state `HOL` reaches on the sequential wire is related to a state of `SeqHOL` with the
same limit -/
theorem holRel_reach (limit n : Nat) (tr : List HOLStep) (h : HOL)
    (hrun : holSys.run (HOL.init limit (seqWire n) n) tr = some h) :
    ∃ q, HolRel n h q ∧ q.limit = limit :=
  Sys.run_inv holSys (fun h => ∃ q, HolRel n h q ∧ q.limit = limit)
    (fun h a h' ⟨q, hr, hl⟩ hs => by
      obtain ⟨b, q', hq, hr'⟩ := hol_sim n h h' q a hr hs
      exact ⟨q', hr', (SeqHOL.step_limit q b q' hq).trans hl⟩)
    tr _ h ⟨_, holRel_init limit n, rfl⟩ hrun

theorem SeqHOL.progress_of_inv (q : SeqHOL) (hl : 0 < q.limit) (hinv : SeqHOL.Inv q)
    (hf : q.final = false) : q.canStep = true := by
  have hsem := hinv.sem
  simp only [SeqHOL.final, Bool.and_eq_false_iff, decide_eq_false_iff_not] at hf
  simp only [SeqHOL.canStep, List.any_cons, List.any_nil, Bool.or_false, Bool.or_eq_true,
    Option.isSome_iff_ne_none, ne_eq]
  cases hc : q.cur <;> simp [hc, SeqHOL.step] at hsem hf ⊢
  · by_cases ht : 0 < q.todo
    · left; omega
    · right; omega
  all_goals
    by_cases hfree : q.sem < q.limit
    · simp [hfree]
    · right; omega

theorem hol_final_of_seq (n : Nat) (h : HOL) (q : SeqHOL) (hr : HolRel n h q) (hf : q.final = true) :
    h.final = true := by
  obtain ⟨c, _, _, hlen, hpre, _, hcnt, _, hph⟩ := hr
  simp only [SeqHOL.final, Bool.and_eq_true, decide_eq_true_eq] at hf
  obtain ⟨⟨ht, hc⟩, hrun⟩ := hf
  simp only [HolPhase, hc] at hph
  have hcn : c = n := by omega
  simp only [HOL.final, List.all_eq_true, decide_eq_true_eq]
  intro x hx
  obtain ⟨i, hi, he⟩ := List.getElem_of_mem hx
  have hget : h.st[i]? = some x := by rw [List.getElem?_eq_getElem hi, he]
  rcases hpre i (by omega) with h' | h'
  · exfalso
    have := count_pos_of_getElem? h'
    omega
  · rw [h'] at hget; cases hget; rfl

/-- whatever `SeqHOL` can do, `HOL` can do (the converse direction of the simulation, for
enabledness): so a stuck `HOL` state on the sequential wire would be a stuck `SeqHOL` state -/
theorem hol_enabled_of_seq (n : Nat) (h : HOL) (q : SeqHOL) (hr : HolRel n h q) (he : q.canStep = true) :
    h.canStep = true := by
  obtain ⟨c, hlim, hsem, hlen, hpre, hpost, hcnt, hq, hph⟩ := hr
  have idx : ∀ (k : Nat) (a : HOLStep), k < h.st.length →
      (a = .acceptID k ∨ a = .take k ∨ a = .readReq k ∨ a = .finish k) → (h.step a).isSome = true →
      h.canStep = true := by
    intro k a hk ha hen
    simp only [HOL.canStep, Bool.or_eq_true, List.any_eq_true, List.mem_range]
    right
    refine ⟨k, hk, ?_⟩
    rcases ha with rfl | rfl | rfl | rfl <;> simp [hen]
  simp only [SeqHOL.canStep, List.any_cons, List.any_nil, Bool.or_false, Bool.or_eq_true] at he
  cases hc : q.cur <;> simp only [HolPhase, hc] at hph <;> simp [hc, SeqHOL.step] at he
  · -- nothing in transit
    rcases he with ht | hrun
    · -- the next id frame can be delivered
      obtain ⟨_, h2, h3, _⟩ := hph
      cases htd : q.todo with
      | zero => omega
      | succ t =>
        rw [htd] at h3
        simp [HOL.canStep, HOL.step, h2, h3, seqFrom]
    · obtain ⟨k, hk⟩ := getElem?_of_count_pos .running h.st (by omega)
      exact idx k (.finish k) (lt_of_getElem? hk) (by simp) (by simp [HOL.step, hk])
  · -- id held: runPeer accepts it
    obtain ⟨h1, h2, h3, h4⟩ := hph
    refine idx c (.acceptID c) (lt_of_getElem? h4) (by simp) ?_
    have hall : (h.st.all fun x => decide (x ≠ RpcPc.accepted)) = true := by
      simp only [List.all_eq_true, decide_eq_true_eq]
      intro x hx
      obtain ⟨i, hi, hxe⟩ := List.getElem_of_mem hx
      have hget : h.st[i]? = some x := by rw [List.getElem?_eq_getElem hi, hxe]
      rcases rpc_get_cases hlen hpre hpost hget with ⟨-, rfl | rfl⟩ | rfl | ⟨-, rfl⟩
      · exact nofun
      · exact nofun
      · rw [h4] at hget; cases hget; exact nofun
      · exact nofun
    simp only [HOL.step]
    rw [if_pos ⟨h2, h4, hall⟩]; rfl
  · -- accepted, request on the wire
    simp [HOL.canStep, HOL.step, hph.2.1, hph.2.2.1]
  · -- accepted, request held: a slot is free or a handler runs
    rcases he with hfree | hrun
    · exact idx c (.take c) (lt_of_getElem? hph.2.2.2) (by simp) (by simp [HOL.step, hph.2.2.2]; omega)
    · obtain ⟨k, hk⟩ := getElem?_of_count_pos .running h.st (by omega)
      exact idx k (.finish k) (lt_of_getElem? hk) (by simp) (by simp [HOL.step, hk])
  · simp [HOL.canStep, HOL.step, hph.2.1, hph.2.2.1]
  · exact idx c (.readReq c) (lt_of_getElem? hph.2.2.2) (by simp) (by simp [HOL.step, hph.2.1, hph.2.2.2])

/-! ### the response channel of a sync round -/

/-- `Round.demand` is a weight that no step of an aborted round increases: a worker whose request
was handed out before the abort counts twice, because it may respond, go idle, take one more queued
request and respond again; every other worker sends at most once more. -/
theorem Round.aborted_step (c : Nat) (s s' : Round) (a : RoundStep)
    (h : s.reading = false ∧ s.cap = c ∧ s.demand ≤ c) (hs : s.step a = some s') :
    s'.reading = false ∧ s'.cap = c ∧ s'.demand ≤ c := by
  obtain ⟨hr, hc, hd⟩ := h
  have keep {t : Round} (h1 : t.reading = false) (h2 : t.cap = s.cap) (h3 : t.demand ≤ s.demand) :
      t.reading = false ∧ t.cap = c ∧ t.demand ≤ c := ⟨h1, h2.trans hc, Nat.le_trans h3 hd⟩
  cases a
  case spawn | abort =>
    obtain ⟨hg, -⟩ := guard_some hs
    exact nomatch hr.symm.trans hg
  case consume =>
    obtain ⟨hg, -⟩ := guard_some hs
    exact nomatch hr.symm.trans hg.1
  case dropSend => cases hs
  case assign =>
    obtain ⟨hg, hs⟩ := Option.ite_none_right_eq_some.mp hs
    rcases ite_cases hs with ⟨hrd, -⟩ | ⟨-, ⟨⟩⟩
    · exact nomatch hr.symm.trans hrd
    · exact keep hr rfl (by simp only [Round.demand]; omega)
  case respondOk | workerQuit =>
    obtain ⟨hg, rfl⟩ := guard_some hs
    exact keep hr rfl (by simp only [Round.demand]; omega)
  case respondErr =>
    obtain ⟨-, hs⟩ := Option.ite_none_right_eq_some.mp hs
    rcases ite_cases hs with ⟨hg, ⟨⟩⟩ | ⟨-, hs⟩
    · exact keep hr rfl (by simp only [Round.demand]; omega)
    · obtain ⟨hg, rfl⟩ := guard_some hs
      exact keep hr rfl (by simp only [Round.demand]; omega)
  case join =>
    obtain ⟨-, rfl⟩ := guard_some hs
    exact keep hr rfl (Nat.le_refl _)

end Verif.Conc
