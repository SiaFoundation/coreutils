/-
`DBStore.AncestorTimestamp` reads the block `min(depth, height)` parent links above its argument —
whether or not the walk takes the shortcut through the best-chain index, and wherever it takes it.
-/
import Verif.Model.Ancestor
import Verif.Lemmas.Updates

namespace Verif.Chain

/-- the loop, for any `d ≤ height` at which the shortcut's target height `height - depth` is
`height - d`: from wherever the walk meets the best chain, the index leads to `anc U d id` -/
theorem ancLoop_spec {U m} (h : Inv U m) (id depth d : Nat) (hd : d ≤ (U id).height)
    (hd' : (U id).height - d = (U id).height - depth) :
    ∀ (fuel i : Nat), i + fuel = d →
      ancLoop U m depth (U id).height fuel i (anc U i id) = anc U d id := by
  intro fuel
  induction fuel with
  | zero => intro i hi; rw [← hi]; rfl
  | succ fuel ih =>
    intro i hi
    rw [ancLoop]
    split
    · next hb =>
      have hj : (if (U id).height < depth then m.bestAt 0 else m.bestAt ((U id).height - depth)) =
          m.bestAt ((U id).height - depth) := by
        split
        · rw [Nat.sub_eq_zero_of_le (Nat.le_of_lt ‹_›)]
        · rfl
      have := h.bestAt_anc hb (k := d - i) (by omega)
      rw [show (U id).height - i - (d - i) = (U id).height - depth by omega] at this
      rw [hj, this, Option.getD_some, ← anc_add, Nat.sub_add_cancel (by omega)]
    · have := ih (i + 1) (by omega)
      rwa [anc_succ'] at this

/-- **the ancestor read by `AncestorTimestamp(id)`** for a block whose state is stored: the block
`min(depth, height(id))` parent links above `id`, in every reachable state of the manager, for a
block on the best chain or on any fork, however the fork relates to the best chain -/
theorem ancestorOf_spec {U m} (h : Inv U m) {id : Nat} (hs : m.states id = true) (depth : Nat) :
    ancestorOf U m depth id = anc U (min depth (U id).height) id := by
  unfold ancestorOf
  exact ancLoop_spec h id depth _ (Nat.min_le_right ..) (by omega) _ 0 (Nat.zero_add _)

end Verif.Chain
