/-
Helper lemmas for M5 (`WalletLedger`): what `appliedEvents` does to an invariant of the event
list, revert undoes apply, the store follows the chain along any update path, the store is the
wallet's view of the chain's ledger, the balance equation along a chain.
-/
import Verif.Model.WalletLedger

namespace Verif.WalletLedger

theorem sum_map_zero {α} (l : List α) : (l.map fun _ => 0).sum = 0 := by
  induction l with
  | nil => rfl
  | cons x l ih => rw [List.map_cons, List.sum_cons, ih]

theorem sum_map_add {α} (l : List α) (f g : α → Nat) :
    (l.map fun i => f i + g i).sum = (l.map f).sum + (l.map g).sum := by
  induction l with
  | nil => rfl
  | cons i l ih =>
    show f i + g i + (l.map fun i => f i + g i).sum = f i + (l.map f).sum + (g i + (l.map g).sum)
    rw [ih, Nat.add_add_add_comm]

theorem sum_ite_eq (ids : List Nat) (hn : ids.Nodup) (a v : Nat) :
    (ids.map fun id => if a = id then v else 0).sum = if a ∈ ids then v else 0 := by
  induction ids with
  | nil => rfl
  | cons i ids ih =>
    rw [List.nodup_cons] at hn
    rw [List.map_cons, List.sum_cons, ih hn.2]
    by_cases hai : a = i
    · subst hai
      simp [hn.1]
    · simp [hai]

/-! `R acc I O`: any statement about the events so far and two running totals that `addEvent`
advances by the in- and outflow it is given.  Every step of `appliedEvents` is such an `addEvent`,
except that a transaction the relevance filter skips moves the totals without an event (`hirr`).
Instances: `Net`, and "every event carries the block's index". -/

section
variable {R : List Event → Nat → Nat → Prop} {b : Block} {acc : List Event} {I O : Nat}
  (hadd : ∀ {acc I O} id k i o m, R acc I O → R (addEvent b.idx acc id k i o m) (I + i) (O + o))
include hadd

theorem inv_payout (k : Kind) (id : Nat) (h : R acc I O) : R (payout b k acc id) (I + elemValue b id) O := by
  unfold payout elemValue
  split
  · exact hadd _ _ _ _ _ h
  · exact h

theorem inv_payoutIfOwn (k : Kind) (id : Nat) (h : R acc I O) :
    R (payoutIfOwn b k acc id) (I + ownValue b id) O := by
  unfold payoutIfOwn ownValue
  split
  · split
    · exact hadd _ _ _ _ _ h
    · exact h
  · exact h

/-- the shape of `claimEvents`, of `res1Events` and of the miner payouts -/
theorem inv_payouts {α} (k : Kind) (p : α → Bool) (g : α → Nat) (l : List α) (h : R acc I O) :
    R (l.foldl (fun acc x => if p x then payout b k acc (g x) else acc) acc)
      (I + ((l.filter p).map fun x => elemValue b (g x)).sum) O := by
  induction l generalizing acc I with
  | nil => exact h
  | cons x l ih =>
    rw [List.foldl_cons, List.filter_cons]
    split
    · rw [List.map_cons, List.sum_cons, ← Nat.add_assoc]
      exact ih (inv_payout hadd k (g x) h)
    · exact ih h

omit hadd in
theorem inv_foldl {α} (f : List Event → α → List Event) {gi go : α → Nat} (l : List α)
    (hf : ∀ x ∈ l, ∀ acc I O, R acc I O → R (f acc x) (I + gi x) (O + go x)) (h : R acc I O) :
    R (l.foldl f acc) (I + (l.map gi).sum) (O + (l.map go).sum) := by
  induction l generalizing acc I O with
  | nil => exact h
  | cons x l ih =>
    rw [List.foldl_cons, List.map_cons, List.map_cons, List.sum_cons, List.sum_cons, ← Nat.add_assoc, ← Nat.add_assoc]
    exact ih (fun y hy => hf y (List.mem_cons_of_mem _ hy)) (hf x (List.mem_cons_self ..) acc I O h)

theorem inv_txnEvents (t : Txn)
    (hirr : relevant t = false → ∀ acc I O, R acc I O →
      R acc (I + (claimSum b t + sumOwnOuts t)) (O + txnOutflow b t))
    (h : R acc I O) :
    R (txnEvents b acc t) (I + (claimSum b t + sumOwnOuts t)) (O + txnOutflow b t) := by
  unfold txnEvents
  split
  · next hr => exact hirr (by simpa using hr) _ _ _ h
  · have h1 := inv_payouts hadd .claim SfIn.claimOwn SfIn.claimId t.sfins h
    rw [← Nat.add_assoc]
    unfold txnOutflow
    split
    · exact hadd _ _ _ _ _ h1
    · exact hadd _ _ _ _ _ h1

theorem inv_res1Events (r : Res1) (h : R acc I O) :
    R (res1Events b acc r) (I + ((r.outs.filter (·.1)).map fun o => elemValue b o.2).sum) O :=
  inv_payouts hadd .v1res Prod.fst Prod.snd r.outs h

theorem inv_res2Events (r : Res2) (h : R acc I O) :
    R (res2Events b acc r) (I + (ownValue b r.hostId + ownValue b r.renterId)) O := by
  rw [← Nat.add_assoc]
  exact inv_payoutIfOwn hadd .v2res r.renterId (inv_payoutIfOwn hadd .v2res r.hostId h)

theorem inv_appliedEvents
    (hirr : ∀ t ∈ b.txns, relevant t = false → ∀ acc I O, R acc I O →
      R acc (I + (claimSum b t + sumOwnOuts t)) (O + txnOutflow b t))
    (h0 : R [] 0 0) : R (appliedEvents b) (paid b) (taken b) := by
  have h1 := inv_foldl (txnEvents b) b.txns (fun t ht _ _ _ => inv_txnEvents hadd t (hirr t ht)) h0
  have h2 := inv_foldl (go := fun _ => 0) (res1Events b) b.res1 (fun r _ _ _ _ => inv_res1Events hadd r) h1
  have h3 := inv_foldl (go := fun _ => 0) (res2Events b) b.res2 (fun r _ _ _ _ => inv_res2Events hadd r) h2
  have h4 := inv_payoutIfOwn hadd .foundation b.foundationId (inv_payouts hadd .miner Prod.fst Prod.snd b.miners h3)
  simp only [sum_map_zero, Nat.add_zero, Nat.zero_add] at h4
  exact h4

end

theorem appliedEvents_idx (b : Block) : ∀ e ∈ appliedEvents b, e.idx = b.idx := by
  refine inv_appliedEvents (R := fun acc _ _ => ∀ e ∈ acc, e.idx = b.idx) ?_ (fun _ _ _ _ _ _ h => h) (fun _ he => nomatch he)
  intro acc _ _ id k i o m h
  unfold addEvent
  split
  · exact h
  · intro e he
    rcases List.mem_append.mp he with he | he
    · exact h e he
    · rw [List.mem_singleton.mp he]

theorem find_id {es : List Elem} {id : Nat} {e : Elem} (h : es.find? (·.id == id) = some e) :
    e ∈ es ∧ e.id = id := by
  have := List.find?_some h
  exact ⟨List.mem_of_find?_eq_some h, beq_iff_eq.mp this⟩

theorem find_id_none {es : List Elem} {id : Nat} (h : id ∉ es.map (·.id)) : es.find? (·.id == id) = none :=
  List.find?_eq_none.mpr fun _ hx hid => h (beq_iff_eq.mp hid ▸ List.mem_map_of_mem hx)

/-- `remove` asks with `any` what `add` asks with `find?` -/
theorem any_id (es : List Elem) (id : Nat) : es.any (·.id == id) = (es.find? (·.id == id)).isSome := by
  rw [Bool.eq_iff_iff, List.any_eq_true, List.find?_isSome]

theorem find_of_nodup (es : List Elem) (hn : (es.map (·.id)).Nodup) (e : Elem) (he : e ∈ es) :
    es.find? (·.id == e.id) = some e := by
  induction es with
  | nil => cases he
  | cons x es ih =>
    rw [List.map_cons, List.nodup_cons] at hn
    rw [List.find?_cons]
    rcases List.mem_cons.mp he with rfl | he
    · rw [beq_self_eq_true]
    · have : (x.id == e.id) = false := beq_false_of_ne fun hx => hn.1 (hx ▸ List.mem_map_of_mem he)
      rw [this]
      exact ih hn.2 he

/-- every stored proof verifies at the store's tip -/
def Synced (s : Store) : Prop := ∀ id u, s.utxos id = some u → u.basis = s.tip

/-- what consensus guarantees about a block `b` that extends the chain the store `s` is at -/
structure ValidOn (s : Store) (b : Block) : Prop where
  parent : b.parent = s.tip
  createdFresh : ∀ e ∈ ownCreated b.diffs, s.utxos e.id = none
  spentPresent : ∀ e ∈ ownSpent b.diffs, s.utxos e.id = some ⟨e.value, e.maturity, s.tip⟩
  spentNodup : ((ownSpent b.diffs).map (·.id)).Nodup
  createdNodup : ((ownCreated b.diffs).map (·.id)).Nodup
  freshIdx : ∀ e ∈ s.events, e.idx ≠ b.idx

theorem synced_init : Synced Store.init := fun _ _ h => nomatch h

theorem synced_apply (s : Store) (b : Block) : Synced (s.apply b) := by
  intro id u h
  simp only [Store.apply, add, remove, rebase] at h
  split at h
  · cases h
    rfl
  · split at h
    · cases h
    · obtain ⟨u0, _, rfl⟩ := Option.map_eq_some_iff.mp h
      rfl

theorem store_ext {a b : Store} (h1 : a.tip = b.tip) (h2 : a.utxos = b.utxos) (h3 : a.events = b.events) : a = b := by
  cases a
  cases b
  cases h1
  cases h2
  cases h3
  rfl

/-- **revert undoes apply** on a synced store and a block valid on it -/
theorem revert_apply (s : Store) (b : Block) (hs : Synced s) (hv : ValidOn s b) : (s.apply b).revert b = s := by
  refine store_ext hv.parent (funext fun id => ?_) ?_
  · simp only [Store.revert, Store.apply, rebase, add, remove, any_id]
    cases hS : (ownSpent b.diffs).find? (·.id == id) with
    | some e =>
      obtain ⟨he, rfl⟩ := find_id hS
      simp [hv.spentPresent e he, hv.parent]
    | none =>
      cases hC : (ownCreated b.diffs).find? (·.id == id) with
      | some e =>
        obtain ⟨he, rfl⟩ := find_id hC
        simp [hv.createdFresh e he]
      | none =>
        cases hu : s.utxos id with
        | none => simp
        | some u => simp [← hs id u hu, hv.parent]
  · simp only [Store.revert, Store.apply]
    rw [List.filter_append, List.filter_eq_self.mpr, List.filter_eq_nil_iff.mpr, List.append_nil]
    · intro e he
      simp [appliedEvents_idx b e he]
    · intro e he
      simpa using hv.freshIdx e he

theorem follow_snoc (c : List Block) (b : Block) : follow (c ++ [b]) = (follow c).apply b := by
  simp [follow, List.foldl_append]

theorem synced_follow (c : List Block) : Synced (follow c) := by
  rcases List.eq_nil_or_concat c with rfl | ⟨c', b, rfl⟩
  · exact synced_init
  · rw [List.concat_eq_append, follow_snoc]
    exact synced_apply _ _

theorem revert_follow (c : List Block) (b : Block) (hv : ValidOn (follow c) b) :
    (follow (c ++ [b])).revert b = follow c := by
  rw [follow_snoc, revert_apply _ _ (synced_follow c) hv]

/-- a chain every block of which is valid on the store its predecessors produce -/
def ChainValid : Store → List Block → Prop
  | _, [] => True
  | s, b :: c => ValidOn s b ∧ ChainValid (s.apply b) c

theorem chainValid_append (s : Store) (c d : List Block) :
    ChainValid s (c ++ d) ↔ ChainValid s c ∧ ChainValid (c.foldl Store.apply s) d := by
  induction c generalizing s with
  | nil => simp [ChainValid]
  | cons b c ih => simp only [List.cons_append, ChainValid, List.foldl_cons, ih, and_assoc]

theorem chainValid_snoc (c : List Block) (b : Block) :
    ChainValid Store.init (c ++ [b]) ↔ ChainValid Store.init c ∧ ValidOn (follow c) b := by
  rw [chainValid_append]
  simp [ChainValid, follow]

/-- an update path as `Manager.UpdatesSince` produces them: an apply extends the chain the store is
at by a block of the block tree (`Good` = the root paths of the tree), a revert removes its last block -/
inductive Path (Good : List Block → Prop) : List Block → List Upd → List Block → Prop
  | nil (c : List Block) : Path Good c [] c
  | apply (c : List Block) (b : Block) (us : List Upd) (c' : List Block) :
      Good (c ++ [b]) → Path Good (c ++ [b]) us c' → Path Good c (.apply b :: us) c'
  | revert (c : List Block) (b : Block) (us : List Upd) (c' : List Block) :
      Path Good c us c' → Path Good (c ++ [b]) (.revert b :: us) c'

theorem Path.ends_good {Good : List Block → Prop} (hpre : ∀ c b, Good (c ++ [b]) → Good c)
    {c c' : List Block} {us : List Upd} (hp : Path Good c us c') (hc : Good c) : Good c' := by
  induction hp with
  | nil c => exact hc
  | apply c b us c' hg _ ih => exact ih hg
  | revert c b us c' _ ih => exact ih (hpre c b hc)

theorem run_follows (Good : List Block → Prop) (hG : ∀ c, Good c → ChainValid Store.init c)
    (c : List Block) (us : List Upd) (c' : List Block) (hp : Path Good c us c')
    (hc : ChainValid Store.init c) : (follow c).run us = follow c' ∧ ChainValid Store.init c' := by
  induction hp with
  | nil c => exact ⟨rfl, hc⟩
  | apply c b us c' hg _ ih =>
    show ((follow c).apply b).run us = _ ∧ _
    rw [← follow_snoc]
    exact ih (hG _ hg)
  | revert c b us c' _ ih =>
    have hv := (chainValid_snoc c b).mp hc
    show ((follow (c ++ [b])).revert b).run us = _ ∧ _
    rw [revert_follow c b hv.2]
    exact ih hv.1

theorem events_foldl (c : List Block) (s : Store) :
    (c.foldl Store.apply s).events = s.events ++ c.flatMap appliedEvents := by
  induction c generalizing s with
  | nil => exact (List.append_nil _).symm
  | cons b c ih =>
    rw [List.foldl_cons, ih, List.flatMap_cons, ← List.append_assoc]
    rfl

/-- the elements of a diff list for every address: created, spent (ephemeral ones skipped) -/
def allCreated (diffs : List Diff) : List Elem :=
  (diffs.filter fun d => !(d.created && d.spent) && d.created).map (·.e)

def allSpent (diffs : List Diff) : List Elem :=
  (diffs.filter fun d => !(d.created && d.spent) && !d.created && d.spent).map (·.e)

/-- the chain's unspent siacoin elements, whatever their address -/
def Ledger := Nat → Option Elem

def Ledger.apply (L : Ledger) (b : Block) : Ledger :=
  fun id => match (allCreated b.diffs).find? (·.id == id) with
    | some e => some e
    | none => if (allSpent b.diffs).any (·.id == id) then none else L id

def ledgerOf (c : List Block) : Ledger := c.foldl Ledger.apply (fun _ => none)

/-- what of the ledger pays the wallet: value and maturity height -/
def view (L : Ledger) (id : Nat) : Option (Nat × Nat) :=
  match L id with
  | some e => if e.own then some (e.value, e.maturity) else none
  | none => none

def stored (s : Store) (id : Nat) : Option (Nat × Nat) := (s.utxos id).map fun u => (u.value, u.maturity)

theorem ownCreated_eq (diffs : List Diff) : ownCreated diffs = (allCreated diffs).filter (·.own) := by
  unfold ownCreated allCreated
  rw [List.filter_map, List.filter_filter]
  congr 2
  funext d
  show (_ && d.e.own && _) = (d.e.own && _)
  cases d.e.own <;> simp only [Bool.and_false, Bool.false_and, Bool.and_true, Bool.true_and]

theorem ownSpent_eq (diffs : List Diff) : ownSpent diffs = (allSpent diffs).filter (·.own) := by
  unfold ownSpent allSpent
  rw [List.filter_map, List.filter_filter]
  congr 2
  funext d
  show (_ && d.e.own && _ && _) = (d.e.own && _)
  cases d.e.own <;> simp only [Bool.and_false, Bool.false_and, Bool.and_true, Bool.true_and]

/-- consensus facts about the diffs of a block on top of the ledger `L` -/
structure LedgerValidOn (L : Ledger) (b : Block) : Prop where
  createdFresh : ∀ e ∈ allCreated b.diffs, L e.id = none
  spentPresent : ∀ e ∈ allSpent b.diffs, L e.id = some e
  createdNodup : ((allCreated b.diffs).map (·.id)).Nodup

theorem find_filter_own (es : List Elem) (hn : (es.map (·.id)).Nodup) (id : Nat) :
    (es.filter (·.own)).find? (·.id == id) = (es.find? (·.id == id)).filter (·.own) := by
  induction es with
  | nil => rfl
  | cons x es ih =>
    rw [List.map_cons, List.nodup_cons] at hn
    by_cases hx : x.id = id
    · have hnone := find_id_none (hx ▸ hn.1)
      cases ho : x.own <;> simp [Option.filter_some, ho, hx, ih hn.2, hnone]
    · cases ho : x.own <;> simp [ho, hx, ih hn.2]

theorem stored_apply (s : Store) (b : Block) (id : Nat) :
    stored (s.apply b) id =
      match (ownCreated b.diffs).find? (·.id == id) with
      | some e => some (e.value, e.maturity)
      | none => if ((ownSpent b.diffs).find? (·.id == id)).isSome then none else stored s id := by
  simp only [stored, Store.apply, add, remove, any_id]
  cases (ownCreated b.diffs).find? (·.id == id) with
  | some e => rfl
  | none =>
    cases ((ownSpent b.diffs).find? (·.id == id)).isSome with
    | true => rfl
    | false => exact Option.map_map ..

theorem view_apply (L : Ledger) (b : Block) (id : Nat) :
    view (L.apply b) id =
      match (allCreated b.diffs).find? (·.id == id) with
      | some e => if e.own then some (e.value, e.maturity) else none
      | none => if ((allSpent b.diffs).find? (·.id == id)).isSome then none else view L id := by
  simp only [view, Ledger.apply, any_id]
  cases (allCreated b.diffs).find? (·.id == id) with
  | some e => rfl
  | none => cases ((allSpent b.diffs).find? (·.id == id)).isSome <;> rfl

theorem view_step (s : Store) (L : Ledger) (b : Block) (hv : LedgerValidOn L b)
    (h : ∀ id, stored s id = view L id) : ∀ id, stored (s.apply b) id = view (L.apply b) id := by
  intro id
  rw [stored_apply, view_apply, ownCreated_eq, ownSpent_eq, find_filter_own _ hv.createdNodup]
  cases hC : (allCreated b.diffs).find? (·.id == id) with
  | some e =>
    obtain ⟨he, rfl⟩ := find_id hC
    rw [Option.filter_some]
    cases ho : e.own
    · -- somebody else's new element: the ledger had nothing under its id, so neither had the store
      have hs : stored s e.id = none := by rw [h, view, hv.createdFresh e he]
      simp only [ho, hs, ite_self, Bool.false_eq_true, reduceIte]
    · simp only [ho, reduceIte]
  | none =>
    rw [Option.filter_none]
    cases hS : (allSpent b.diffs).find? (·.id == id) with
    | some e =>
      obtain ⟨he, rfl⟩ := find_id hS
      cases ho : e.own
      · have hs : stored s e.id = none := by
          rw [h, view, hv.spentPresent e he]
          exact if_neg (ho ▸ Bool.false_ne_true)
        simp only [hs, ite_self, Option.isSome_some, reduceIte]
      · have : ((allSpent b.diffs).filter (·.own)).find? (·.id == e.id) |>.isSome :=
          List.find?_isSome.mpr ⟨e, List.mem_filter.mpr ⟨he, ho⟩, beq_self_eq_true _⟩
        simp only [this, Option.isSome_some, reduceIte]
    | none =>
      have : ((allSpent b.diffs).filter (·.own)).find? (·.id == id) = none :=
        List.find?_eq_none.mpr fun x hx => List.find?_eq_none.mp hS x (List.mem_filter.mp hx).1
      simp only [this, h, Option.isSome_none, Bool.false_eq_true, reduceIte]

def LedgerChainValid : Ledger → List Block → Prop
  | _, [] => True
  | L, b :: c => LedgerValidOn L b ∧ LedgerChainValid (L.apply b) c

theorem view_foldl (c : List Block) (s : Store) (L : Ledger) (hv : LedgerChainValid L c)
    (h : ∀ id, stored s id = view L id) :
    ∀ id, stored (c.foldl Store.apply s) id = view (c.foldl Ledger.apply L) id := by
  induction c generalizing s L with
  | nil => exact h
  | cons b c ih => exact ih _ _ hv.2 (view_step s L b hv.1 h)

def netIn (evs : List Event) : Nat := (evs.map (·.inflow)).sum
def netOut (evs : List Event) : Nat := (evs.map (·.outflow)).sum

/-- value of the stored output `id` (0 if there is none) and the total over a list of ids -/
def val (s : Store) (id : Nat) : Nat := match s.utxos id with | some u => u.value | none => 0
def total (s : Store) (ids : List Nat) : Nat := (ids.map (val s)).sum

theorem total_init (ids : List Nat) : total Store.init ids = 0 := sum_map_zero ids

/-- the value an element list holds under `id` -/
def valE (es : List Elem) (id : Nat) : Nat := match es.find? (·.id == id) with | some e => e.value | none => 0

theorem val_apply (s : Store) (b : Block) (hv : ValidOn s b) (id : Nat) :
    val (s.apply b) id + valE (ownSpent b.diffs) id = val s id + valE (ownCreated b.diffs) id := by
  simp only [val, valE, Store.apply, add, remove, rebase, any_id]
  cases hC : (ownCreated b.diffs).find? (·.id == id) with
  | some e =>
    obtain ⟨he, rfl⟩ := find_id hC
    have hS : (ownSpent b.diffs).find? (·.id == e.id) = none := by
      cases hS : (ownSpent b.diffs).find? (·.id == e.id) with
      | none => rfl
      | some x =>
        obtain ⟨hx, hid⟩ := find_id hS
        exact nomatch (hid ▸ hv.spentPresent x hx).symm.trans (hv.createdFresh e he)
    rw [hS, hv.createdFresh e he]
    exact Nat.add_comm ..
  | none =>
    cases hS : (ownSpent b.diffs).find? (·.id == id) with
    | some e =>
      obtain ⟨he, rfl⟩ := find_id hS
      rw [hv.spentPresent e he]
      exact Nat.add_comm ..
    | none => cases s.utxos id <;> rfl

theorem sum_valE (ids : List Nat) (hn : ids.Nodup) (es : List Elem) (hes : (es.map (·.id)).Nodup)
    (hsub : ∀ e ∈ es, e.id ∈ ids) : (ids.map (valE es)).sum = sumE es := by
  induction es with
  | nil => exact sum_map_zero ids
  | cons e es ih =>
    rw [List.map_cons, List.nodup_cons] at hes
    have hcons : ∀ id, valE (e :: es) id = (if e.id = id then e.value else 0) + valE es id := by
      intro id
      rw [valE, List.find?_cons]
      by_cases h : e.id = id
      · rw [beq_iff_eq.mpr h, if_pos h, valE, find_id_none (h ▸ hes.1)]
        rfl
      · rw [beq_false_of_ne h, if_neg h, Nat.zero_add]
        rfl
    rw [List.map_congr_left fun id _ => hcons id, sum_map_add, sum_ite_eq ids hn,
      if_pos (hsub e (List.mem_cons_self ..)), ih hes.2 fun x hx => hsub x (List.mem_cons_of_mem _ hx)]
    rfl

theorem total_apply (s : Store) (b : Block) (hv : ValidOn s b) (ids : List Nat) (hn : ids.Nodup)
    (hC : ∀ e ∈ ownCreated b.diffs, e.id ∈ ids) (hS : ∀ e ∈ ownSpent b.diffs, e.id ∈ ids) :
    total (s.apply b) ids + sumE (ownSpent b.diffs) = total s ids + sumE (ownCreated b.diffs) := by
  rw [← sum_valE ids hn _ hv.spentNodup hS, ← sum_valE ids hn _ hv.createdNodup hC, total, total,
    ← sum_map_add, ← sum_map_add, List.map_congr_left fun id _ => val_apply s b hv id]

/-- the events of a block account for exactly what the block creates for and spends from the wallet -/
def Accounted (b : Block) : Prop :=
  netIn (appliedEvents b) + sumE (ownSpent b.diffs) = netOut (appliedEvents b) + sumE (ownCreated b.diffs)

instance (b : Block) : Decidable (Accounted b) := by unfold Accounted; infer_instance

theorem netIn_append (a b : List Event) : netIn (a ++ b) = netIn a + netIn b := by
  rw [netIn, List.map_append, List.sum_append]
  rfl

theorem netOut_append (a b : List Event) : netOut (a ++ b) = netOut a + netOut b := by
  rw [netOut, List.map_append, List.sum_append]
  rfl

theorem balance_chain (ids : List Nat) (hn : ids.Nodup) (c : List Block) (s : Store) (hv : ChainValid s c)
    (hb : ∀ b ∈ c, Accounted b ∧ (∀ e ∈ ownCreated b.diffs, e.id ∈ ids) ∧ (∀ e ∈ ownSpent b.diffs, e.id ∈ ids))
    (h : netIn s.events = netOut s.events + total s ids) :
    netIn (c.foldl Store.apply s).events = netOut (c.foldl Store.apply s).events + total (c.foldl Store.apply s) ids := by
  induction c generalizing s with
  | nil => exact h
  | cons b c ih =>
    refine ih _ hv.2 (fun x hx => hb x (List.mem_cons_of_mem _ hx)) ?_
    have ⟨hacc, hC, hS⟩ := hb b (List.mem_cons_self ..)
    have ht := total_apply s b hv.1 ids hn hC hS
    show netIn (s.events ++ appliedEvents b) = netOut (s.events ++ appliedEvents b) + total (s.apply b) ids
    rw [netIn_append, netOut_append]
    apply Nat.add_right_cancel (m := sumE (ownSpent b.diffs))
    rw [Nat.add_assoc (netIn _), hacc, Nat.add_assoc (netOut _ + _), ht, h]
    exact Nat.add_add_add_comm ..

/-- "the events so far record `I` of inflow and `O` of outflow, up to events that were dropped
because their inflow equals their outflow" -/
def Net (acc : List Event) (I O : Nat) : Prop := netIn acc + O = netOut acc + I

theorem net_addEvent {acc : List Event} {I O : Nat} (idx id : Nat) (k : Kind) (i o m : Nat) (h : Net acc I O) :
    Net (addEvent idx acc id k i o m) (I + i) (O + o) := by
  unfold addEvent
  split
  · next hio =>
    subst hio
    show netIn acc + (O + i) = netOut acc + (I + i)
    rw [← Nat.add_assoc, ← Nat.add_assoc, h]
  · show netIn (acc ++ _) + (O + o) = netOut (acc ++ _) + (I + i)
    rw [netIn_append, netOut_append]
    show netIn acc + i + (O + o) = netOut acc + o + (I + i)
    rw [Nat.add_add_add_comm, h, Nat.add_add_add_comm _ o, Nat.add_comm o i]

theorem filter_eq_nil_of_any {α} {l : List α} {p : α → Bool} (h : l.any p = false) : l.filter p = [] :=
  List.filter_eq_nil_iff.mpr (List.any_eq_false.mp h)

theorem irrelevant_zero (b : Block) (hc : v1InsCoherent b = true) (t : Txn) (ht : t ∈ b.txns) (hr : relevant t = false) :
    claimSum b t = 0 ∧ sumOwnOuts t = 0 ∧ txnOutflow b t = 0 := by
  unfold relevant at hr
  simp only [Bool.or_eq_false_iff] at hr
  obtain ⟨⟨ho, hi⟩, hs⟩ := hr
  refine ⟨?_, ?_, ?_⟩
  · rw [claimSum, filter_eq_nil_of_any hs]
    rfl
  · rw [sumOwnOuts, filter_eq_nil_of_any ho]
    rfl
  · unfold txnOutflow
    split
    · rw [v2Outflow, filter_eq_nil_of_any hi]
      rfl
    · next hv2 =>
      -- a v1 input that is not the wallet's spends, by coherence, an element that is not the wallet's
      have hall : ∀ i ∈ t.ins, ownValue b i.id = 0 := by
        intro i hi'
        have hown : i.own = false := Bool.eq_false_iff.mpr (List.any_eq_false.mp hi i hi')
        have h1 := List.all_eq_true.mp hc t ht
        rw [Bool.eq_false_iff.mpr hv2, Bool.false_or, List.all_eq_true] at h1
        have h2 := h1 i hi'
        unfold ownValue
        cases he : lookup b.diffs i.id with
        | none => rfl
        | some e =>
          rw [he] at h2
          have : e.own = false := (beq_iff_eq.mp h2).trans hown
          exact if_neg (this ▸ Bool.false_ne_true)
      rw [v1Outflow, List.map_congr_left hall, sum_map_zero]

/-- **the events of a block record exactly what its contents pay to and take from the wallet** -/
theorem net_appliedEvents (b : Block) (hc : v1InsCoherent b = true) :
    Net (appliedEvents b) (paid b) (taken b) := by
  refine inv_appliedEvents (net_addEvent b.idx) (fun t ht hr _ _ _ h => ?_) rfl
  obtain ⟨h1, h2, h3⟩ := irrelevant_zero b hc t ht hr
  rw [h1, h2, h3]
  exact h

end Verif.WalletLedger
