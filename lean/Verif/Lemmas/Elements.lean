/-
Helper lemmas for M3 (Elements): the expiration-list primitives, the per-bucket round trips
of `applyElements` / `revertElements`, the history induction, panic-freedom of `applyElements`
on well-formed diffs, and the decidability instances the concrete witnesses evaluate.
-/
import Verif.Model.Elements

namespace Verif.Elements

theorem set_set {α} (f : Nat → α) (k : Nat) (a b : α) : set (set f k a) k b = set f k b := by
  funext j
  by_cases h : j = k <;> simp [set, h]

theorem set_self {α} (f : Nat → α) (k : Nat) : set f k (f k) = f := by
  funext j
  by_cases h : j = k <;> simp [set, h]

theorem foldl_skip {α β} (step : α → β → α) (l : List β) (x : α) (h : ∀ d ∈ l, step x d = x) :
    l.foldl step x = x := by
  induction l with
  | nil => rfl
  | cons d l ih =>
    rw [List.foldl_cons, h d (List.mem_cons_self ..)]
    exact ih (fun d' hm => h d' (List.mem_cons_of_mem _ hm))

theorem delExp_perm_erase (l : List Nat) (id : Nat) : (delExp l id).Perm (l.erase id) := by
  induction l with
  | nil => simp [delExp]
  | cons x xs ih =>
    unfold delExp
    by_cases hx : x = id
    · subst hx
      simp only [if_true, List.erase_cons_head]
      cases hl : xs.getLast? with
      | none =>
        have : xs = [] := by simpa using hl
        simp [this]
      | some y =>
        obtain ⟨ys, rfl⟩ := List.getLast?_eq_some_iff.mp hl
        simpa using List.perm_append_comm (l₁ := [y]) (l₂ := ys)
    · simp only [hx, if_false]
      rw [List.erase_cons_tail (by simpa using hx)]
      exact ih.cons x

theorem delExp_append_of_not_mem {l : List Nat} {id : Nat} (h : id ∉ l) (m : List Nat) :
    delExp (l ++ m) id = l ++ delExp m id := by
  induction l with
  | nil => rfl
  | cons x xs ih =>
    rw [List.mem_cons, not_or] at h
    rw [List.cons_append, delExp, if_neg (Ne.symm h.1), ih h.2, List.cons_append]

theorem delExp_of_not_mem {l : List Nat} {id : Nat} (h : id ∉ l) : delExp l id = l := by
  have := delExp_append_of_not_mem h []
  rwa [List.append_nil, delExp, List.append_nil] at this

theorem mem_delExp_of_ne {l : List Nat} {id a : Nat} (h : a ≠ id) : a ∈ delExp l id ↔ a ∈ l := by
  rw [(delExp_perm_erase l id).mem_iff]
  exact List.mem_erase_of_ne h

theorem delExp_congr {l l' : List Nat} (h : l.Perm l') (id : Nat) : (delExp l id).Perm (delExp l' id) :=
  (delExp_perm_erase l id).trans ((h.erase id).trans (delExp_perm_erase l' id).symm)

theorem delExp_append_self {l : List Nat} {id : Nat} (h : id ∉ l) : delExp (l ++ [id]) id = l := by
  rw [delExp_append_of_not_mem h, delExp, if_pos rfl]
  exact List.append_nil l

theorem foldl_delExp_all (l : List Nat) : ∀ m : List Nat, m.Perm l → l.foldl delExp m = [] := by
  induction l with
  | nil => intro m h; simpa using h.eq_nil
  | cons a l ih =>
    intro m h
    simp only [List.foldl_cons]
    apply ih
    have h1 : (delExp m a).Perm (m.erase a) := delExp_perm_erase m a
    have h2 : (m.erase a).Perm ((a :: l).erase a) := h.erase a
    simpa using h1.trans h2

/-! ### well-formed diff lists

What `consensus.ApplyBlock` guarantees about the diffs of a valid block relative to the store
they are applied to (consensus is a parameter; these are the hypotheses of the round-trip
theorems, and the generators of the correspondence check cross them deliberately). -/

/-- within one kind every id occurs at most once (`recordSiacoinElement` & co. key the diff
lists by id, core `application.go:400-470`) -/
def DistinctIds (ds : List Diff) : Prop := ds.Pairwise (fun a b => a.kind = b.kind → a.id ≠ b.id)

/-- a spent element is stored, a created one is not -/
def WFSet (k : Kind) (f : Nat → Bool) (d : Diff) : Prop :=
  d.kind = k → (d.created && d.spent) = false →
    (d.spent = true → f d.id = true) ∧ (d.spent = false → f d.id = false)

/-- a resolved or revised contract is stored *as the diff's element describes it*; a created
one is not stored -/
def WFFc (g : Nat → Option (Nat × Nat)) (d : Diff) : Prop :=
  d.kind = .fc → (d.created && d.spent) = false →
    (d.spent = true → g d.id = some (d.we, d.rn)) ∧
    (d.spent = false → (d.rev.isSome = true → g d.id = some (d.we, d.rn)) ∧ (d.rev = none → g d.id = none))

/-- a contract removed from an expiration list is on it -/
def WFExp (e : Nat → List Nat) (d : Diff) : Prop :=
  d.kind = .fc → (d.created && d.spent) = false →
    (d.spent = true → d.id ∈ e d.we) ∧
    (d.spent = false → ∀ r, d.rev = some r → r.1 ≠ d.we → d.id ∈ e d.we)

structure WF (s : Store) (ds : List Diff) : Prop where
  distinct : DistinctIds ds
  sc : ∀ d ∈ ds, WFSet .sc s.sc d
  sf : ∀ d ∈ ds, WFSet .sf s.sf d
  fc : ∀ d ∈ ds, WFFc s.fc d
  exp : ∀ d ∈ ds, WFExp s.exp d

/-! ### the keyed buckets

On the siacoin, siafund and contract buckets a diff either does nothing or overwrites the entry
under its own id: applying writes the new value, reverting the old one. -/

/-- the diff belongs to bucket `k` and is not an ephemeral (created-and-spent) element -/
def Acts (k : Kind) (d : Diff) : Prop := d.kind = k ∧ (d.created && d.spent) = false

instance (k : Kind) (d : Diff) : Decidable (Acts k d) := inferInstanceAs (Decidable (_ ∧ _))

def put {α} (k : Kind) (v : Diff → α) (f : Nat → α) (d : Diff) : Nat → α :=
  if Acts k d then set f d.id (v d) else f

section put
variable {α : Type} {k : Kind} {new old : Diff → α} {f : Nat → α} {d : Diff}

theorem put_other {j : Nat} (h : Acts k d → j ≠ d.id) : put k new f d j = f j := by
  unfold put
  split
  · exact set_other _ _ _ _ (h ‹_›)
  · rfl

theorem put_noop (h : Acts k d → f d.id = old d) : put k old f d = f := by
  unfold put
  split
  · rw [← h ‹_›, set_self]
  · rfl

theorem put_put (h : Acts k d → f d.id = old d) : put k old (put k new f d) d = f := by
  unfold put
  split
  · rw [set_set, ← h ‹_›, set_self]
  · rfl

theorem foldl_put_roundtrip (ds : List Diff) : ∀ f : Nat → α,
    ds.Pairwise (fun a b => Acts k a → Acts k b → a.id ≠ b.id) → (∀ d ∈ ds, Acts k d → f d.id = old d) →
    ds.reverse.foldl (put k old) (ds.foldl (put k new) f) = f := by
  induction ds with
  | nil => intros; rfl
  | cons d ds ih =>
    intro f hd hw
    rw [List.pairwise_cons] at hd
    rw [List.foldl_cons, List.reverse_cons, List.foldl_append, ih _ hd.2]
    · exact put_put (hw d (List.mem_cons_self ..))
    · intro d' hm ha
      rw [put_other fun hd' e => hd.1 d' hm hd' ha e.symm]
      exact hw d' (List.mem_cons_of_mem _ hm) ha

end put

theorem DistinctIds.acts {ds : List Diff} (h : DistinctIds ds) (k : Kind) :
    ds.Pairwise (fun a b => Acts k a → Acts k b → a.id ≠ b.id) :=
  h.imp fun hab ha hb => hab (ha.1.trans hb.1.symm)

theorem appSet_eq (k : Kind) : appSet k = put k (fun d => !d.spent) := by
  funext f d
  by_cases hk : d.kind = k <;> cases hc : d.created <;> cases hs : d.spent <;>
    simp [appSet, put, Acts, hk, hc, hs]

theorem revSet_eq (k : Kind) : revSet k = put k (·.spent) := by
  funext f d
  by_cases hk : d.kind = k <;> cases hc : d.created <;> cases hs : d.spent <;>
    simp [revSet, put, Acts, hk, hc, hs]

theorem wfSet_iff (k : Kind) (f : Nat → Bool) (d : Diff) : WFSet k f d ↔ (Acts k d → f d.id = d.spent) := by
  cases hs : d.spent <;> simp [WFSet, Acts, hs]

/-- the contract entry after / before a diff that acts on the contract bucket -/
def fcNew (d : Diff) : Option (Nat × Nat) := if d.spent then none else some (d.rev.getD (d.we, d.rn))
def fcOld (d : Diff) : Option (Nat × Nat) := if d.spent || d.rev.isSome then some (d.we, d.rn) else none

theorem appFc_eq : appFc = put .fc fcNew := by
  funext g d
  by_cases hk : d.kind = .fc <;> cases hc : d.created <;> cases hs : d.spent <;> cases hr : d.rev <;>
    simp [appFc, put, Acts, fcNew, hk, hc, hs, hr]

theorem revFc_eq : revFc = put .fc fcOld := by
  funext g d
  by_cases hk : d.kind = .fc <;> cases hc : d.created <;> cases hs : d.spent <;> cases hr : d.rev <;>
    simp [revFc, put, Acts, fcOld, hk, hc, hs, hr]

theorem wfFc_iff (g : Nat → Option (Nat × Nat)) (d : Diff) : WFFc g d ↔ (Acts .fc d → g d.id = fcOld d) := by
  cases hs : d.spent <;> cases hr : d.rev <;> simp [WFFc, Acts, fcOld, hs, hr]

theorem applyDiffs_eq (s : Store) (ds : List Diff) :
    applyDiffs s ds = { s with sc := ds.foldl (appSet .sc) s.sc, sf := ds.foldl (appSet .sf) s.sf,
                               fc := ds.foldl appFc s.fc, exp := ds.foldl appExp s.exp } := by
  induction ds generalizing s with
  | nil => rfl
  | cons d ds ih => exact ih (applyDiff s d)

theorem revertDiffs_eq (s : Store) (ds : List Diff) :
    revertDiffs s ds = { s with sc := ds.foldl (revSet .sc) s.sc, sf := ds.foldl (revSet .sf) s.sf,
                                fc := ds.foldl revFc s.fc, exp := ds.foldl revExp s.exp } := by
  induction ds generalizing s with
  | nil => rfl
  | cons d ds ih => exact ih (revertDiff s d)

/-- two expiration schedules hold the same contracts at every height, in any order -/
def PermE (e e' : Nat → List Nat) : Prop := ∀ h, (e h).Perm (e' h)

theorem PermE.refl (e : Nat → List Nat) : PermE e e := fun _ => List.Perm.refl _
theorem PermE.trans {a b c : Nat → List Nat} (h1 : PermE a b) (h2 : PermE b c) : PermE a c :=
  fun h => (h1 h).trans (h2 h)

theorem PermE.set {e e' : Nat → List Nat} (h : PermE e e') (k : Nat) {l l' : List Nat} (hl : l.Perm l') :
    PermE (set e k l) (set e' k l') := by
  intro j
  by_cases hj : j = k
  · subst hj
    simpa using hl
  · simpa [Elements.set, hj] using h j

theorem putExp_congr {l l' : List Nat} (h : l.Perm l') (id : Nat) (a : Bool) :
    (putExp l id a).Perm (putExp l' id a) := by
  cases a
  · exact h.cons id
  · exact h.append_right [id]

theorem erase_append_singleton_perm (l : List Nat) (a : Nat) : ((l ++ [a]).erase a).Perm l := by
  simpa using (List.perm_append_comm (l₁ := l) (l₂ := [a])).erase a

theorem cons_delExp_perm {l : List Nat} {a : Nat} (hm : a ∈ l) : (a :: delExp l a).Perm l :=
  ((delExp_perm_erase l a).cons a).trans (List.perm_cons_erase hm).symm

section caseEquations
variable (e : Nat → List Nat) (d : Diff)

theorem appExp_skip (h : d.kind ≠ .fc ∨ (d.created && d.spent) = true) : appExp e d = e := by
  rcases h with h | h <;> simp [appExp, h]

theorem revExp_skip (h : d.kind ≠ .fc ∨ (d.created && d.spent) = true) : revExp e d = e := by
  rcases h with h | h <;> simp [revExp, h]

variable (hk : d.kind = .fc)
include hk

theorem appExp_resolved (hc : d.created = false) (hs : d.spent = true) :
    appExp e d = set e d.we (delExp (e d.we) d.id) := by
  simp [appExp, hk, hc, hs]

theorem revExp_resolved (hc : d.created = false) (hs : d.spent = true) :
    revExp e d = set e d.we (d.id :: e d.we) := by
  simp [revExp, hk, hc, hs, putExp]

variable (hs : d.spent = false)
include hs

theorem appExp_created (hr : d.rev = none) : appExp e d = set e d.we (e d.we ++ [d.id]) := by
  simp [appExp, hk, hs, hr, putExp]

theorem revExp_created (hr : d.rev = none) : revExp e d = set e d.we (delExp (e d.we) d.id) := by
  simp [revExp, hk, hs, hr]

variable (r : Nat × Nat) (hr : d.rev = some r)
include hr

theorem appExp_rev_same (hwe : r.1 = d.we) : appExp e d = e := by
  simp [appExp, hk, hs, hr, hwe]

theorem revExp_rev_same (hwe : r.1 = d.we) : revExp e d = e := by
  simp [revExp, hk, hs, hr, hwe]

theorem appExp_rev_move (hwe : r.1 ≠ d.we) :
    appExp e d = set (set e d.we (delExp (e d.we) d.id)) r.1 (e r.1 ++ [d.id]) := by
  simp [appExp, hk, hs, hr, hwe, putExp, Elements.set]

theorem revExp_rev_move (hwe : r.1 ≠ d.we) :
    revExp e d = set (set e r.1 (delExp (e r.1) d.id)) d.we (d.id :: e d.we) := by
  have : d.we ≠ r.1 := fun x => hwe x.symm
  simp [revExp, hk, hs, hr, hwe, putExp, Elements.set, this]

end caseEquations

/-! On the expiration lists a diff moves its id from one list to another (either may be absent):
applying removes it from the first and appends it to the second, reverting removes it from the
second and prepends it to the first. -/

/-- the height whose list loses the diff's id when the diff is applied, and the height whose list
gains it -/
def move (d : Diff) : Option Nat × Option Nat :=
  if d.kind ≠ .fc then (none, none)
  else if d.created && d.spent then (none, none)
  else if d.spent then (some d.we, none)
  else match d.rev with
    | some r => if r.1 ≠ d.we then (some d.we, some r.1) else (none, none)
    | none => (none, some d.we)

/-- rewrite the expiration list stored under one height key, or nothing when there is no height -/
def updAt (g : List Nat → List Nat) (e : Nat → List Nat) : Option Nat → Nat → List Nat
  | none => e
  | some h => set e h (g (e h))

/-- everything the model does with a diff on the expiration lists, in terms of `move` -/
structure MoveSpec (d : Diff) : Prop where
  app : ∀ e, appExp e d = updAt (putExp · d.id true) (updAt (delExp · d.id) e (move d).1) (move d).2
  rev : ∀ e, revExp e d = updAt (putExp · d.id false) (updAt (delExp · d.id) e (move d).2) (move d).1
  panics : ∀ e, appPanics e d = (move d).1.any fun h => !(e h).contains d.id
  wf : ∀ e, WFExp e d ↔ ∀ h ∈ (move d).1, d.id ∈ e h
  heights : ∀ h, h ∈ (move d).1 ∨ h ∈ (move d).2 → h ∈ touched [d]

theorem moveSpec (d : Diff) : MoveSpec d := by
  by_cases hk : d.kind = .fc
  · cases hs : d.spent
    · cases hr : d.rev with
      | none =>
        constructor <;> simp [appExp, revExp, appPanics, WFExp, touched, move, updAt, hk, hs, hr]
      | some r =>
        by_cases hwe : r.1 = d.we <;> constructor <;>
          simp [appExp, revExp, appPanics, WFExp, touched, move, updAt, hk, hs, hr, hwe, eq_comm]
    · cases hc : d.created <;> constructor <;>
        simp [appExp, revExp, appPanics, WFExp, touched, move, updAt, hk, hs, hc, eq_comm]
  · constructor <;> simp [appExp, revExp, appPanics, WFExp, move, updAt, hk]

section updAt
variable {g g' : List Nat → List Nat} {e e' : Nat → List Nat} {a h : Nat} {o : Option Nat}

theorem updAt_other (hn : o ≠ some h) : updAt g e o h = e h := by
  cases o with
  | none => rfl
  | some k => exact set_other _ _ _ _ fun e => hn (e ▸ rfl)

theorem mem_updAt (hg : ∀ l, a ∈ g l ↔ a ∈ l) : a ∈ updAt g e o h ↔ a ∈ e h := by
  by_cases ho : o = some h
  · subst ho
    rw [updAt, set_same, hg]
  · rw [updAt_other ho]

theorem PermE.updAt (hp : PermE e e') (hg : ∀ {l l'}, l.Perm l' → (g l).Perm (g l')) (o : Option Nat) :
    PermE (updAt g e o) (updAt g e' o) := by
  cases o with
  | none => exact hp
  | some k => exact hp.set k (hg (hp k))

theorem updAt_updAt_perm (hg : ∀ k, o = some k → (g' (g (e k))).Perm (e k)) :
    PermE (updAt g' (updAt g e o) o) e := by
  cases o with
  | none => exact PermE.refl e
  | some k =>
    simp only [updAt, set_same, set_set]
    have := (PermE.refl e).set k (hg k rfl)
    rwa [set_self] at this

end updAt

theorem revExp_congr {t e : Nat → List Nat} (h : PermE t e) (d : Diff) : PermE (revExp t d) (revExp e d) := by
  rw [(moveSpec d).rev, (moveSpec d).rev]
  exact (h.updAt (delExp_congr · _) _).updAt (putExp_congr · _ _) _

theorem revExp_appExp_perm (e : Nat → List Nat) (d : Diff) (hw : WFExp e d) :
    PermE (revExp (appExp e d) d) e := by
  rw [(moveSpec d).rev, (moveSpec d).app]
  -- what was appended is removed, then what was removed is prepended
  refine ((updAt_updAt_perm fun k _ => ?_).updAt (putExp_congr · _ _) _).trans
    (updAt_updAt_perm fun k hk => cons_delExp_perm (((moveSpec d).wf e).mp hw k hk))
  exact (delExp_perm_erase _ _).trans (erase_append_singleton_perm _ _)

theorem mem_appExp_of_ne (e : Nat → List Nat) (d : Diff) (a h : Nat) (hne : d.kind = .fc → a ≠ d.id) :
    a ∈ appExp e d h ↔ a ∈ e h := by
  by_cases hk : d.kind = .fc
  · rw [(moveSpec d).app, mem_updAt fun l => by simp [putExp, hne hk], mem_updAt fun l => mem_delExp_of_ne (hne hk)]
  · rw [appExp_skip e d (Or.inl hk)]

theorem WFExp_appExp (e : Nat → List Nat) (d d' : Diff) (hne : d.kind = d'.kind → d.id ≠ d'.id)
    (h : WFExp e d') : WFExp (appExp e d) d' := by
  intro hk' he
  have hb := h hk' he
  have hmem : ∀ x, d'.id ∈ appExp e d x ↔ d'.id ∈ e x := fun x =>
    mem_appExp_of_ne e d d'.id x fun hk e => hne (hk.trans hk'.symm) e.symm
  exact ⟨fun hs => (hmem _).mpr (hb.1 hs), fun hs r hr hwe => (hmem _).mpr (hb.2 hs r hr hwe)⟩

theorem exp_roundtrip_perm (ds : List Diff) : ∀ e : Nat → List Nat,
    DistinctIds ds → (∀ d ∈ ds, WFExp e d) →
    PermE (ds.reverse.foldl revExp (ds.foldl appExp e)) e := by
  induction ds with
  | nil => intro e _ _; exact PermE.refl e
  | cons d ds ih =>
    intro e hd hw
    rw [DistinctIds, List.pairwise_cons] at hd
    rw [List.foldl_cons, List.reverse_cons, List.foldl_append]
    have hw' : ∀ d' ∈ ds, WFExp (appExp e d) d' := fun d' hm =>
      WFExp_appExp e d d' (hd.1 d' hm) (hw d' (List.mem_cons_of_mem _ hm))
    exact (revExp_congr (ih (appExp e d) hd.2 hw') d).trans (revExp_appExp_perm e d (hw d (List.mem_cons_self ..)))


/-- **ExpStable**, defined semantically: applying the diff list and reverting it gives the
expiration schedule back exactly (not just as multisets) -/
def ExpStable (s : Store) (ds : List Diff) : Prop :=
  (revertDiffs (applyDiffs s ds) ds.reverse).exp = s.exp

theorem revertDiffs_applyDiffs_exp (s : Store) (ds : List Diff) :
    (revertDiffs (applyDiffs s ds) ds.reverse).exp = ds.reverse.foldl revExp (ds.foldl appExp s.exp) := by
  rw [revertDiffs_eq, applyDiffs_eq]

/-- `revertElements ∘ applyElements` on a well-formed diff list changes nothing but, possibly, the
order within the expiration lists -/
theorem revertDiffs_applyDiffs_eq (s : Store) (ds : List Diff) (hw : WF s ds) :
    revertDiffs (applyDiffs s ds) ds.reverse =
      { s with exp := ds.reverse.foldl revExp (ds.foldl appExp s.exp) } := by
  rw [revertDiffs_eq, applyDiffs_eq]
  simp only [appSet_eq, revSet_eq, appFc_eq, revFc_eq]
  rw [foldl_put_roundtrip ds s.sc (hw.distinct.acts _) fun d hd => (wfSet_iff ..).mp (hw.sc d hd),
    foldl_put_roundtrip ds s.sf (hw.distinct.acts _) fun d hd => (wfSet_iff ..).mp (hw.sf d hd),
    foldl_put_roundtrip ds s.fc (hw.distinct.acts _) fun d hd => (wfFc_iff ..).mp (hw.fc d hd)]

theorem revertDiffs_applyDiffs (s : Store) (ds : List Diff) (hw : WF s ds) (hs : ExpStable s ds) :
    revertDiffs (applyDiffs s ds) ds.reverse = s := by
  rw [ExpStable, revertDiffs_applyDiffs_exp] at hs
  rw [revertDiffs_applyDiffs_eq s ds hw, hs]

theorem revertDiffs_unapplied (s : Store) (ds : List Diff) (hw : WF s ds) (hno : ∀ d ∈ ds, d.kind ≠ .fc) :
    revertDiffs s ds.reverse = s := by
  have hm : ∀ d, d ∈ ds.reverse → d ∈ ds := fun d h => List.mem_reverse.mp h
  rw [revertDiffs_eq, revSet_eq, revSet_eq, revFc_eq,
    foldl_skip _ _ s.sc fun d h => put_noop ((wfSet_iff ..).mp (hw.sc d (hm d h))),
    foldl_skip _ _ s.sf fun d h => put_noop ((wfSet_iff ..).mp (hw.sf d (hm d h))),
    foldl_skip _ _ s.fc fun d h => put_noop (old := fcOld) fun ha => absurd ha.1 (hno d (hm d h)),
    foldl_skip _ _ s.exp fun d h => revExp_skip _ d (Or.inl (hno d (hm d h)))]

theorem revertState_applyState (s : Store) (b h : Nat) (hidx : s.index h = none) (hh : s.height + 1 = h) :
    revertState (applyState s b h) (h - 1) = s := by
  subst hh
  rw [revertState, applyState]
  simp only [Nat.add_sub_cancel, set_set]
  rw [← hidx, set_self]

theorem revertBlock_applyBlock (req : Nat) (s : Store) (b h : Nat) (ds : List Diff)
    (hw : WF s ds) (hno : h > req → ∀ d ∈ ds, d.kind ≠ .fc)
    (hst : h ≤ req → ExpStable s ds)
    (hidx : s.index h = none) (hh : s.height + 1 = h) :
    revertBlock req (applyBlock req s b h ds) h ds.reverse = s := by
  have hw' : WF (applyState s b h) ds := ⟨hw.distinct, hw.sc, hw.sf, hw.fc, hw.exp⟩
  -- across the two guards the element buckets are back where `applyState` left them
  have hel : (if h - 1 ≤ req then revertDiffs (applyBlock req s b h ds) ds.reverse
      else applyBlock req s b h ds) = applyState s b h := by
    unfold applyBlock
    by_cases h1 : h ≤ req
    · rw [if_pos h1, if_pos (by omega)]
      refine revertDiffs_applyDiffs _ ds hw' ?_
      have := hst h1
      rw [ExpStable, revertDiffs_applyDiffs_exp] at this ⊢
      exact this
    · rw [if_neg h1]
      split
      · exact revertDiffs_unapplied _ ds hw' (hno (by omega))
      · rfl
  rw [revertBlock, hel]
  exact revertState_applyState s b h hidx hh

/-! ### histories

`lin b` is the store of a node that applied exactly the ancestry of `b`, one block after the
other.  The history theorem says that any node reaching `b` through applies and reverts holds
`lin b`, provided every block it reverted gets its expiration lists back in order. -/

/-- a block universe: genesis is 0 at height 0 and every other block sits one above its parent -/
structure WFU (U : Nat → BlkInfo) : Prop where
  gen : (U 0).height = 0
  height : ∀ b, b ≠ 0 → (U b).height = (U (U b).parent).height + 1

theorem WFU.induction {U : Nat → BlkInfo} (hU : WFU U) {P : Nat → Prop} (h0 : P 0)
    (hs : ∀ b, b ≠ 0 → P (U b).parent → P b) (b : Nat) : P b := by
  suffices ∀ n b, (U b).height = n → P b from this _ b rfl
  intro n
  induction n with
  | zero =>
    intro b hb
    by_cases h : b = 0
    · exact h ▸ h0
    · have := hU.height b h
      omega
  | succ n ih =>
    intro b hb
    have hne : b ≠ 0 := fun e => by
      rw [e, hU.gen] at hb
      cases hb
    have := hU.height b hne
    exact hs b hne (ih _ (by omega))

def linAux (req : Nat) (U : Nat → BlkInfo) : Nat → Nat → Store
  | 0, _ => (Node.init req U).store
  | f + 1, b =>
    if b = 0 then (Node.init req U).store
    else
      let p := linAux req U f (U b).parent
      applyBlock req p b (U b).height (blockDiffs req p (U b))

/-- the store after a linear replay of the ancestry of `b` -/
def lin (req : Nat) (U : Nat → BlkInfo) (b : Nat) : Store := linAux req U (U b).height b

theorem applyBlock_state (req : Nat) (s : Store) (b h : Nat) (ds : List Diff) :
    (applyBlock req s b h ds).index = set s.index h (some b) ∧ (applyBlock req s b h ds).height = h := by
  unfold applyBlock
  split
  · rw [applyDiffs_eq]
    exact ⟨rfl, rfl⟩
  · exact ⟨rfl, rfl⟩

section lin
variable {req : Nat} {U : Nat → BlkInfo} (hU : WFU U)
include hU

theorem lin_zero : lin req U 0 = (Node.init req U).store := by
  simp [lin, hU.gen, linAux]

theorem lin_succ {b : Nat} (hb : b ≠ 0) :
    lin req U b = applyBlock req (lin req U (U b).parent) b (U b).height
      (blockDiffs req (lin req U (U b).parent) (U b)) := by
  have hh := hU.height b hb
  unfold lin
  rw [hh]
  simp only [linAux, hb, if_false]
  rw [hh]

theorem lin_height (b : Nat) : (lin req U b).height = (U b).height := by
  by_cases hb : b = 0
  · subst hb
    rw [lin_zero hU, hU.gen]
    exact (applyBlock_state ..).2
  · rw [lin_succ hU hb, (applyBlock_state ..).2]

theorem lin_index_above (b : Nat) : ∀ h, (U b).height < h → (lin req U b).index h = none := by
  induction b using hU.induction with
  | h0 =>
    intro h hh
    rw [lin_zero hU, Node.init, (applyBlock_state ..).1, set_other _ _ _ _ (by omega)]
    rfl
  | hs b hb ih =>
    intro h hh
    rw [hU.height b hb] at hh
    rw [lin_succ hU hb, (applyBlock_state ..).1, hU.height b hb, set_other _ _ _ _ (by omega)]
    exact ih h (by omega)

end lin

/-- what consensus guarantees about the declared blocks: relative to the linear store of its
parent, a block's diff list is well formed, and above the require height there are no v1
contract diffs -/
structure WFBlocks (req : Nat) (U : Nat → BlkInfo) : Prop where
  wf : ∀ b, b ≠ 0 → WF (lin req U (U b).parent) (blockDiffs req (lin req U (U b).parent) (U b))
  nofc : ∀ b, b ≠ 0 → (U b).height > req → ∀ d ∈ (U b).fixed, d.kind ≠ .fc

/-- block `b`'s expiration lists survive apply-then-revert on the linear store of its parent -/
def Stable (req : Nat) (U : Nat → BlkInfo) (b : Nat) : Prop :=
  ExpStable (lin req U (U b).parent) (blockDiffs req (lin req U (U b).parent) (U b))

/-- every `revert` of the run undoes a stable block -/
def RevertsStable (req : Nat) (U : Nat → BlkInfo) : Node → List Op → Prop
  | _, [] => True
  | n, op :: ops =>
    (op = .revert → Stable req U n.tip) ∧
    match n.step op with
    | none => True
    | some n' => RevertsStable req U n' ops

structure Inv (req : Nat) (U : Nat → BlkInfo) (n : Node) : Prop where
  req_eq : n.req = req
  U_eq : n.U = U
  store_eq : n.store = lin req U n.tip
  supp_eq : ∀ b ds, n.supp b = some ds → b ≠ 0 → ds = blockDiffs req (lin req U (U b).parent) (U b)

theorem inv_init (req : Nat) (U : Nat → BlkInfo) (hU : WFU U) : Inv req U (Node.init req U) := by
  refine ⟨rfl, rfl, (lin_zero hU).symm, fun b ds h hb => ?_⟩
  simp [Node.init, Elements.set, hb] at h

theorem blockDiffs_nofc (req : Nat) (s : Store) (B : BlkInfo) (h : B.height > req)
    (hf : ∀ d ∈ B.fixed, d.kind ≠ .fc) : ∀ d ∈ blockDiffs req s B, d.kind ≠ .fc := by
  rw [blockDiffs, expiryDiffs, if_pos (by omega), List.append_nil]
  exact hf

theorem applyTip_some {n n' : Node} {b : Nat} (h : n.applyTip b = some n') :
    (n.U b).parent = n.tip ∧ (n.U b).height = n.store.height + 1 ∧
    ∃ ds, (n.supp b = some ds ∨ n.supp b = none ∧ ds = blockDiffs n.req n.store (n.U b)) ∧
      n' = { n with store := applyBlock n.req n.store b (n.U b).height ds, tip := b,
                    supp := set n.supp b (some ds),
                    panicked := n.panicked || applyBlockPanics n.req n.store b (n.U b).height ds } := by
  simp only [Node.applyTip] at h
  split at h
  · cases h
  · rename_i hc
    rw [not_or, Decidable.not_not, Decidable.not_not] at hc
    refine ⟨hc.1, hc.2, ?_⟩
    split at h
    · exact ⟨_, Or.inl ‹_›, (Option.some.inj h).symm⟩
    · exact ⟨_, Or.inr ⟨‹_›, rfl⟩, (Option.some.inj h).symm⟩

theorem revertTip_some {n n' : Node} (h : n.revertTip = some n') :
    n.store.height ≠ 0 ∧ ∃ ds, n.supp n.tip = some ds ∧
      n' = { n with store := revertBlock n.req n.store n.store.height ds.reverse, tip := (n.U n.tip).parent,
                    panicked := n.panicked || revertBlockPanics n.req n.store n.store.height ds.reverse } := by
  simp only [Node.revertTip] at h
  split at h
  · cases h
  · split at h
    · cases h
    · exact ⟨‹_›, _, ‹_›, (Option.some.inj h).symm⟩

theorem inv_step {req : Nat} {U : Nat → BlkInfo} (hU : WFU U) (hB : WFBlocks req U)
    (n n' : Node) (op : Op) (hi : Inv req U n) (hs : op = .revert → Stable req U n.tip)
    (hstep : n.step op = some n') : Inv req U n' := by
  obtain ⟨hreq, hUU, hstore, hsupp⟩ := hi
  cases op with
  | apply b =>
    obtain ⟨hp, hh, ds, hds, rfl⟩ := applyTip_some hstep
    rw [hUU] at hp hh
    have hb : b ≠ 0 := fun e => by
      have := hU.gen
      subst e
      omega
    -- stored or fresh, the diff list is the one of the linear replay
    have hds : ds = blockDiffs req (lin req U (U b).parent) (U b) := by
      rcases hds with h | ⟨_, rfl⟩
      · exact hsupp b ds h hb
      · rw [hreq, hUU, hstore, hp]
    subst hds
    refine ⟨hreq, hUU, ?_, fun b' ds' h hb' => ?_⟩
    · show applyBlock n.req n.store b (n.U b).height _ = lin req U b
      rw [lin_succ hU hb, hreq, hUU, hstore, hp]
    · by_cases hbb : b' = b
      · subst hbb
        exact (Option.some.inj ((set_same ..).symm.trans h)).symm
      · exact hsupp b' ds' ((set_other _ _ _ _ hbb).symm.trans h) hb'
  | revert =>
    obtain ⟨hh0, ds, hds, rfl⟩ := revertTip_some hstep
    have hb : n.tip ≠ 0 := fun e => by
      rw [hstore, e, lin_height hU, hU.gen] at hh0
      exact hh0 rfl
    have hds' := hsupp n.tip ds hds hb
    refine ⟨hreq, hUU, ?_, hsupp⟩
    show revertBlock n.req n.store n.store.height ds.reverse = lin req U (n.U n.tip).parent
    have hh := hU.height n.tip hb
    rw [hreq, hUU, hstore, lin_height hU, lin_succ hU hb, hds']
    exact revertBlock_applyBlock _ _ _ _ _ (hB.wf n.tip hb)
      (fun hgt => blockDiffs_nofc req _ _ hgt (hB.nofc n.tip hb hgt)) (fun _ => hs rfl)
      (lin_index_above hU _ _ (by omega)) (by rw [lin_height hU, hh])

theorem inv_run {req : Nat} {U : Nat → BlkInfo} (hU : WFU U) (hB : WFBlocks req U) (ops : List Op) :
    ∀ n n', Inv req U n → RevertsStable req U n ops → n.run ops = some n' → Inv req U n' := by
  induction ops with
  | nil =>
    intro n n' hi _ hr
    cases hr
    exact hi
  | cons op ops ih =>
    intro n n' hi hs hr
    simp only [Node.run] at hr
    cases hstep : n.step op with
    | none => rw [hstep] at hr; cases hr
    | some n1 =>
      rw [hstep] at hr
      simp only [RevertsStable, hstep] at hs
      exact ih n1 n' (inv_step hU hB n n1 op hi hs.1 hstep) hs.2 hr

def pathAux (U : Nat → BlkInfo) : Nat → Nat → List Nat
  | 0, _ => []
  | f + 1, b => if b = 0 then [] else pathAux U f (U b).parent ++ [b]

/-- the ancestry of `b` from the first block after genesis down to `b` -/
def path (U : Nat → BlkInfo) (b : Nat) : List Nat := pathAux U (U b).height b

theorem run_append (n : Node) (a b : List Op) :
    n.run (a ++ b) = match n.run a with | none => none | some n1 => n1.run b := by
  induction a generalizing n with
  | nil => rfl
  | cons op a ih =>
    simp only [List.cons_append, Node.run]
    cases n.step op with
    | none => rfl
    | some n1 => exact ih n1

theorem run_prefix {n n' : Node} {a b : List Op} (h : n.run (a ++ b) = some n') : ∃ m, n.run a = some m := by
  rw [run_append] at h
  cases hr : n.run a with
  | none => rw [hr] at h; cases h
  | some m => exact ⟨m, rfl⟩

theorem RevertsStable.prefix {req : Nat} {U : Nat → BlkInfo} {a b : List Op} :
    ∀ {n : Node}, RevertsStable req U n (a ++ b) → RevertsStable req U n a := by
  induction a with
  | nil => intros; trivial
  | cons op a ih =>
    intro n h
    rw [List.cons_append, RevertsStable] at h
    refine ⟨h.1, ?_⟩
    have h2 := h.2
    cases hs : n.step op with
    | none => trivial
    | some n1 =>
      rw [hs] at h2
      exact ih h2

theorem path_succ {U : Nat → BlkInfo} (hU : WFU U) {b : Nat} (hb : b ≠ 0) :
    path U b = path U (U b).parent ++ [b] := by
  unfold path
  rw [hU.height b hb]
  simp [pathAux, hb]

theorem path_zero {U : Nat → BlkInfo} (hU : WFU U) : path U 0 = [] := by
  simp [path, hU.gen, pathAux]

theorem linear_run {req : Nat} {U : Nat → BlkInfo} (hU : WFU U) (hB : WFBlocks req U) (b : Nat) :
    ∃ n', (Node.init req U).run ((path U b).map Op.apply) = some n' ∧ n'.tip = b ∧ Inv req U n' := by
  induction b using hU.induction with
  | h0 => exact ⟨_, by rw [path_zero hU]; rfl, rfl, inv_init req U hU⟩
  | hs b hb ih =>
    obtain ⟨n1, hrun, htip, hi⟩ := ih
    have hc : ¬((n1.U b).parent ≠ n1.tip ∨ (n1.U b).height ≠ n1.store.height + 1) := by
      rw [hi.U_eq, htip, hi.store_eq, htip, lin_height hU, hU.height b hb]
      simp
    obtain ⟨n', hs, ht⟩ : ∃ n', n1.step (.apply b) = some n' ∧ n'.tip = b := ⟨_, if_neg hc, rfl⟩
    refine ⟨n', ?_, ht, inv_step hU hB n1 n' (.apply b) hi (fun h => nomatch h) hs⟩
    rw [path_succ hU hb, List.map_append, run_append, hrun]
    simp only [List.map_cons, List.map_nil, Node.run, hs]

theorem appPanics_false (e : Nat → List Nat) (d : Diff) (h : WFExp e d) : appPanics e d = false := by
  rw [(moveSpec d).panics]
  cases hm : (move d).1 with
  | none => rfl
  | some x => simpa using ((moveSpec d).wf e).mp h x hm

theorem applyDiffsPanics_false (ds : List Diff) : ∀ s : Store,
    DistinctIds ds → (∀ d ∈ ds, WFExp s.exp d) → applyDiffsPanics s ds = false := by
  induction ds with
  | nil => intros; rfl
  | cons d ds ih =>
    intro s hd hw
    rw [DistinctIds, List.pairwise_cons] at hd
    rw [applyDiffsPanics, appPanics_false s.exp d (hw d (List.mem_cons_self ..)), Bool.false_or]
    exact ih _ hd.2 fun d' hm => WFExp_appExp s.exp d d' (hd.1 d' hm) (hw d' (List.mem_cons_of_mem _ hm))

theorem touched_of_mem {ds : List Diff} {d : Diff} {h : Nat} (hd : d ∈ ds) (hm : h ∈ touched [d]) :
    h ∈ touched ds := by
  simp only [touched, List.flatMap_cons, List.flatMap_nil, List.append_nil] at hm
  exact List.mem_flatMap.mpr ⟨d, hd, hm⟩

theorem appExp_untouched {d : Diff} {h : Nat} (hn : h ∉ touched [d]) (e : Nat → List Nat) : appExp e d h = e h := by
  rw [(moveSpec d).app, updAt_other fun hm => hn ((moveSpec d).heights h (Or.inr hm)),
    updAt_other fun hm => hn ((moveSpec d).heights h (Or.inl hm))]

theorem revExp_untouched {d : Diff} {h : Nat} (hn : h ∉ touched [d]) (e : Nat → List Nat) : revExp e d h = e h := by
  rw [(moveSpec d).rev, updAt_other fun hm => hn ((moveSpec d).heights h (Or.inl hm)),
    updAt_other fun hm => hn ((moveSpec d).heights h (Or.inr hm))]

theorem foldl_eq_at {α β γ : Type} (step : (γ → α) → β → γ → α) (x : γ) (l : List β)
    (h : ∀ e, ∀ d ∈ l, step e d x = e x) (e : γ → α) : l.foldl step e x = e x := by
  induction l generalizing e with
  | nil => rfl
  | cons d l ih =>
    rw [List.foldl_cons, ih (fun e d' hm => h e d' (List.mem_cons_of_mem _ hm)), h e d (List.mem_cons_self ..)]

theorem expStableB_iff (s : Store) (ds : List Diff) : expStableB s ds = true ↔ ExpStable s ds := by
  unfold expStableB ExpStable
  rw [List.all_eq_true]
  constructor
  · intro h
    funext x
    by_cases hx : x ∈ touched ds
    · simpa using h x hx
    · rw [revertDiffs_applyDiffs_exp,
        foldl_eq_at revExp x _ fun e d hd => revExp_untouched (fun h => hx (touched_of_mem (List.mem_reverse.mp hd) h)) e,
        foldl_eq_at appExp x _ fun e d hd => appExp_untouched (fun h => hx (touched_of_mem hd h)) e]
  · intro h x _
    simp [h]

/-! ### decidability (for the concrete witnesses and non-vacuity examples) -/

instance (k : Kind) (f : Nat → Bool) (d : Diff) : Decidable (WFSet k f d) := by
  unfold WFSet; infer_instance

instance (g : Nat → Option (Nat × Nat)) (d : Diff) : Decidable (WFFc g d) := by
  unfold WFFc; infer_instance

instance (e : Nat → List Nat) (d : Diff) : Decidable (WFExp e d) :=
  decidable_of_iff _ ((moveSpec d).wf e).symm

instance (ds : List Diff) : Decidable (DistinctIds ds) := by
  unfold DistinctIds; infer_instance

instance (s : Store) (ds : List Diff) : Decidable (WF s ds) :=
  decidable_of_iff (DistinctIds ds ∧ (∀ d ∈ ds, WFSet .sc s.sc d) ∧ (∀ d ∈ ds, WFSet .sf s.sf d) ∧
      (∀ d ∈ ds, WFFc s.fc d) ∧ (∀ d ∈ ds, WFExp s.exp d))
    ⟨fun ⟨a, b, c, d, e⟩ => ⟨a, b, c, d, e⟩, fun h => ⟨h.distinct, h.sc, h.sf, h.fc, h.exp⟩⟩

/-- executable form of `RevertsStable` -/
def revertsStableB (req : Nat) (U : Nat → BlkInfo) : Node → List Op → Bool
  | _, [] => true
  | n, op :: ops =>
    (if op = .revert then
        expStableB (lin req U (U n.tip).parent) (blockDiffs req (lin req U (U n.tip).parent) (U n.tip))
      else true) &&
    match n.step op with
    | none => true
    | some n' => revertsStableB req U n' ops

theorem revertsStableB_sound (req : Nat) (U : Nat → BlkInfo) (ops : List Op) :
    ∀ n, revertsStableB req U n ops = true → RevertsStable req U n ops := by
  induction ops with
  | nil => intro n _; trivial
  | cons op ops ih =>
    intro n h
    simp only [revertsStableB, Bool.and_eq_true] at h
    refine ⟨fun hop => (expStableB_iff _ _).mp (by simpa [hop] using h.1), ?_⟩
    have h2 := h.2
    cases hs : n.step op with
    | none => trivial
    | some n' =>
      rw [hs] at h2
      exact ih n' h2
