/-
The pool's weight counter is the weight of the pooled transactions (C05: eviction for low fees
happens only when the pooled transactions really fill the pool); `MineBlock`'s selection loop
stays within the block weight.  Core only.
-/
import Verif.Lemmas.Pool

namespace Verif.Pool

theorem refill_weight {cfg l v2} (c : Nat) (ts : List Txn) (a : Acc) (h : a.weight = c + sumW a.kept) :
    (refill cfg l v2 a ts).weight = c + sumW (refill cfg l v2 a ts).kept :=
  refill_induct (P := fun a => a.weight = c + sumW a.kept) ts a
    (fun a t _ _ _ h => by simp only [push, h, sumW_append, sumW_cons, sumW_nil]; omega) h

theorem rebuild_weight (cfg : Cfg) (p : Pool) :
    (rebuild cfg p).weight = sumW ((rebuild cfg p).txns ++ (rebuild cfg p).v2txns) := by
  obtain ⟨a1, a2, e1, e2, e⟩ := rebuild_eq cfg p
  have h1 : a1.weight = 0 + sumW a1.kept := e1 ▸ refill_weight 0 _ _ rfl
  have h2 : a2.weight = a1.weight + sumW a2.kept := e2 ▸ refill_weight _ _ _ rfl
  rw [e, sumW_append]
  exact h2.trans (congrArg (· + _) (h1.trans (Nat.zero_add _)))

/-- whenever the mid-state is present, the weight counter is the weight of what is pooled -/
def WInv (p : Pool) : Prop := p.ms.isSome = true → p.weight = sumW (p.txns ++ p.v2txns)

theorem revalidate_weight (cfg : Cfg) (p : Pool) (h : WInv p) :
    (revalidate cfg p).weight = sumW ((revalidate cfg p).txns ++ (revalidate cfg p).v2txns) :=
  revalidate_induct (Q := fun q => q.weight = sumW (q.txns ++ q.v2txns)) h fun q _ => rebuild_weight cfg q

theorem AddOutcome.winv {cfg v2 p set r} (ho : AddOutcome cfg v2 p set r) (h : p.weight = sumW (p.txns ++ p.v2txns)) : WInv r.1 := by
  cases ho with
  | invalid _ | known _ _ => exact fun _ => h
  | conflict p' _ _ _ _ _ _ _ _ _ hms => intro hc; rw [hms] at hc; cases hc
  | added p' new _ h1 h2 _ _ _ _ _ hw _ _ _ _ _ =>
    intro _
    rw [hw, h]
    cases v2
    · rw [show p'.txns = p.txns ++ new from h1, show p'.v2txns = p.v2txns from h2]
      simp only [sumW_append]
      omega
    · rw [show p'.v2txns = p.v2txns ++ new from h1, show p'.txns = p.txns from h2]
      simp only [sumW_append]
      omega

theorem step_winv (cfg : Cfg) (p : Pool) (h : WInv p) (op : Op) : WInv (step cfg p op) :=
  step_keeps (X := fun q => q.weight = sumW (q.txns ++ q.v2txns)) p op (revalidate_weight cfg p h)
    fun _ _ _ ho => ho.winv (revalidate_weight cfg p h)

theorem run_winv (cfg : Cfg) : ∀ (ops : List Op) (p : Pool), WInv p → WInv (run cfg p ops) :=
  fun ops _ h => List.foldlRecOn ops (step cfg) h fun p h op _ => step_winv cfg p h op

/-! ## `MineBlock`'s selection loop -/

theorem takeWeight_prefix (max : Nat) : ∀ (ts : List Txn) (w : Nat), (takeWeight max w ts).1 <+: ts
  | [], _ => List.prefix_refl _
  | t :: ts, w => by
    unfold takeWeight
    split
    · exact List.nil_prefix
    · exact List.cons_prefix_cons.2 ⟨rfl, takeWeight_prefix max ts _⟩

theorem takeWeight_le (max : Nat) : ∀ (ts : List Txn) (w : Nat), w ≤ max →
    w + sumW (takeWeight max w ts).1 ≤ max
  | [], _, h => h
  | t :: ts, w, h => by
    unfold takeWeight
    split
    · exact h
    · have := takeWeight_le max ts (w + t.weight) (by omega)
      simp only [sumW_cons]
      omega

theorem takeWeight_within (max : Nat) : ∀ (ts : List Txn) (w : Nat), (takeWeight max w ts).2 ≤ max →
    (takeWeight max w ts).1 = ts ∧ (takeWeight max w ts).2 = w + sumW ts
  | [], _, _ => ⟨rfl, rfl⟩
  | t :: ts, w, h => by
    unfold takeWeight at h ⊢
    split at h
    · omega
    · rename_i hw
      obtain ⟨h1, h2⟩ := takeWeight_within max ts _ h
      simp only [if_neg hw, h1, h2, sumW_cons, Nat.add_assoc, and_self]

theorem takeWeight_over (max : Nat) (ts : List Txn) (w : Nat) (h : max < w) : (takeWeight max w ts).1 = [] := by
  cases ts with
  | nil => rfl
  | cons t ts => unfold takeWeight; rw [if_pos (by omega)]

end Verif.Pool
