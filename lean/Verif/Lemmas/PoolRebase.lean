/-
Rebasing a v2 transaction set along a revert/apply path (`updateV2TransactionProofs`): what comes
out, in which order, with which leaf indices (C13).  Core only.
-/
import Verif.Lemmas.PoolFrame

namespace Verif.Pool

/-! ## the model's definitions, by cases -/

theorem inpRes_v1 (l : Ledger) (c : List Nat) (i : Inp) :
    inpRes l c false i = true ↔ i.elem ∈ c ∨ (l.leafOf i.elem).isSome = true := by
  simp [inpRes]

theorem inpRes_ephemeral (l : Ledger) (c : List Nat) {i : Inp} (h : i.leaf = none) :
    inpRes l c true i = true ↔ i.elem ∈ c := by
  simp [inpRes, h]

theorem inpRes_confirmed (l : Ledger) (c : List Nat) {i : Inp} {lf : Nat} (h : i.leaf = some lf) :
    inpRes l c true i = true ↔ i.bad = false ∧ l.leafOf i.elem = some lf := by
  simp [inpRes, h]

theorem seqValid_inpRes {cfg : Cfg} {l : Ledger} {v2 : Bool} {ms : MidState} {pre post : List Txn} {t : Txn}
    (h : seqValid cfg l v2 ms (pre ++ t :: post) = true) {i : Inp} (hi : i ∈ t.inputs) :
    inpRes l (msOf ms pre).created v2 i = true := by
  have hv := seqValid_at cfg l v2 ms pre t post h
  rw [txValid, Bool.and_eq_true] at hv
  exact ((inputsOk_iff l _ v2 t.inputs _).1 hv.2).2.1 i hi

theorem proofsOk_iff {n : Nat} {t : Txn} :
    proofsOk n t = true ↔ ∀ i ∈ t.inputs, ∀ lf, i.leaf = some lf → lf < n := by
  unfold proofsOk
  rw [List.all_eq_true]
  refine forall₂_congr fun i _ => ?_
  cases i.leaf <;> simp

theorem basisOk_iff {t : Txn} :
    basisOk t = true ↔ ∀ i ∈ t.inputs, ∀ lf, i.leaf = some lf → i.bad = false := by
  unfold basisOk
  rw [List.all_eq_true]
  refine forall₂_congr fun i _ => ?_
  cases i.leaf <;> simp

theorem forall_inputs_map (f : Inp → Inp) (P : Inp → Prop) (ts : List Txn) :
    (∀ t ∈ ts.map (mapInputs f), ∀ i ∈ t.inputs, P i) ↔ ∀ t ∈ ts, ∀ i ∈ t.inputs, P (f i) := by
  simp only [List.forall_mem_map, mapInputs]

/-! ## the two legs as closed forms -/

def confirmedIds (app : List Blk) : List Nat := app.flatMap fun b => b.v2txns.map (·.id)

/-- what the apply leg does to one input: block after block, an ephemeral input whose element the
block created gets that element's leaf -/
def confirmSeq : List Blk → Inp → Inp
  | [], i => i
  | b :: bs, i => confirmSeq bs (confirmInp b.created i)

/-- every leaf index carried by the set lies below the leaf count `n` (what `updateTxnProofs` tests) -/
def LeafBound (n : Nat) (ts : List Txn) : Prop := ∀ t ∈ ts, ∀ i ∈ t.inputs, ∀ lf, i.leaf = some lf → lf < n

theorem all_proofsOk {n : Nat} {ts : List Txn} : ts.all (proofsOk n) = true ↔ LeafBound n ts := by
  simp only [List.all_eq_true, proofsOk_iff, LeafBound]

theorem foldOpt_none {α β} (f : α → β → Option α) (bs : List β) : foldOpt f none bs = none := by
  cases bs <;> rfl

theorem revertLeg_eq (ts : List Txn) : ∀ (rev : List Blk),
    foldOpt rebaseRevert (some ts) rev =
      if rev.all (fun b => ts.all (proofsOk b.leavesBefore)) then some ts else none
  | [] => rfl
  | b :: rev => by
    rw [foldOpt, rebaseRevert, List.all_cons]
    cases ts.all (proofsOk b.leavesBefore)
    · exact foldOpt_none _ _
    · exact revertLeg_eq ts rev

theorem rebaseApply_eq_some {ts out : List Txn} {b : Blk} :
    rebaseApply ts b = some out ↔
      out = (ts.filter fun t => !(b.v2txns.map (·.id)).contains t.id).map (mapInputs (confirmInp b.created)) ∧
      LeafBound b.leavesAfter out := by
  unfold rebaseApply
  simp only [Option.ite_none_right_eq_some, Option.some.injEq, all_proofsOk]
  constructor
  · rintro ⟨h, rfl⟩; exact ⟨rfl, h⟩
  · rintro ⟨rfl, h⟩; exact ⟨h, rfl⟩

theorem rebase_eq_some {cfg : Cfg} {ts out : List Txn} {rev app : List Blk} :
    rebase cfg ts (some (rev, app)) = some out ↔
      ts.all basisOk = true ∧ rev.length + app.length ≤ cfg.maxReorg ∧
      (rev.all fun b => ts.all (proofsOk b.leavesBefore)) = true ∧ foldOpt rebaseApply (some ts) app = some out := by
  unfold rebase
  simp only [Option.ite_none_left_eq_some, Bool.not_eq_true', Bool.not_eq_false, Nat.not_lt, revertLeg_eq]
  refine and_congr_right fun _ => and_congr_right fun _ => ?_
  cases rev.all fun b => ts.all (proofsOk b.leavesBefore)
  · simp [foldOpt_none]
  · simp

theorem mapInputs_comp (f g : Inp → Inp) (t : Txn) : mapInputs f (mapInputs g t) = mapInputs (f ∘ g) t := by
  simp [mapInputs, List.map_map]

@[simp] theorem mapInputs_id' (t : Txn) : (mapInputs f t).id = t.id := rfl

theorem mapInputs_elems (f : Inp → Inp) (hf : ∀ i, (f i).elem = i.elem) (t : Txn) :
    (mapInputs f t).inputs.map (·.elem) = t.inputs.map (·.elem) := by
  rw [mapInputs, List.map_map]
  exact List.map_congr_left fun i _ => hf i

theorem mapInputs_confirmSeq_nil : mapInputs (confirmSeq []) = id := by
  funext t; simp [mapInputs, confirmSeq]

theorem mapInputs_confirmSeq_cons (b : Blk) (bs : List Blk) :
    mapInputs (confirmSeq (b :: bs)) = mapInputs (confirmSeq bs) ∘ mapInputs (confirmInp b.created) := by
  funext t; rw [Function.comp, mapInputs_comp]; rfl

theorem applyLeg_result : ∀ (app : List Blk) (ts out : List Txn),
    foldOpt rebaseApply (some ts) app = some out →
    out = (ts.filter fun t => !(confirmedIds app).contains t.id).map (mapInputs (confirmSeq app))
  | [], ts, out, h => by
    cases h
    rw [mapInputs_confirmSeq_nil, List.map_id]
    exact (List.filter_eq_self.2 fun _ _ => rfl).symm
  | b :: bs, ts, out, h => by
    rw [foldOpt] at h
    cases hb : rebaseApply ts b with
    | none => rw [hb, foldOpt_none] at h; cases h
    | some rem =>
      rw [hb] at h
      rw [applyLeg_result bs rem out h, (rebaseApply_eq_some.1 hb).1, List.filter_map, List.map_map,
        List.filter_filter, mapInputs_confirmSeq_cons]
      congr 1
      apply List.filter_congr
      intro t _
      simp only [Function.comp, mapInputs_id', confirmedIds, List.flatMap_cons, List.contains_eq_mem,
        List.mem_append, Bool.decide_or, Bool.not_or, Bool.and_comm]

/-- **what a successful rebase returns**: the transactions that were not confirmed on the apply leg,
in their original order, each with its inputs passed through the apply leg -/
theorem rebase_result (cfg : Cfg) (ts : List Txn) (rev app : List Blk) (out : List Txn)
    (h : rebase cfg ts (some (rev, app)) = some out) :
    out = (ts.filter fun t => !(confirmedIds app).contains t.id).map (mapInputs (confirmSeq app)) :=
  applyLeg_result app ts out (rebase_eq_some.1 h).2.2.2

theorem confirmSeq_elem : ∀ (app : List Blk) (i : Inp), (confirmSeq app i).elem = i.elem
  | [], _ => rfl
  | b :: bs, i => by rw [confirmSeq, confirmSeq_elem bs, confirmInp_elem]

/-! ## leaf indices along the path -/

def ledgerAlong (l : Ledger) (rev app : List Blk) : Ledger := app.foldl Ledger.apply (rev.foldl Ledger.revert l)

/-- a reverted block is consistent with the ledger it is reverted from: what it created lies at or
beyond its parent's leaf count and, if still unspent, is in the ledger with that leaf; what it
spent is not in the ledger -/
def RevWF (l : Ledger) (b : Blk) : Prop :=
  (∀ p ∈ b.created, b.leavesBefore ≤ p.2 ∧ (l.leafOf p.1 = some p.2 ∨ l.leafOf p.1 = none)) ∧
  (∀ p ∈ b.spent, l.leafOf p.1 = none)

def AppWF (l : Ledger) (b : Blk) : Prop := ∀ p ∈ b.created, l.leafOf p.1 = none

def RevPathWF : Ledger → List Blk → Prop
  | _, [] => True
  | l, b :: bs => RevWF l b ∧ RevPathWF (l.revert b) bs

def AppPathWF : Ledger → List Blk → Prop
  | _, [] => True
  | l, b :: bs => AppWF l b ∧ AppPathWF (l.apply b) bs

/-- every leaf index carried by the set is the one the ledger `l` has for that element -/
def LeafOK (l : Ledger) (ts : List Txn) : Prop :=
  ∀ t ∈ ts, ∀ i ∈ t.inputs, ∀ lf, i.leaf = some lf → l.leafOf i.elem = some lf

theorem LeafOK.of_basis {l : Ledger} {ts : List Txn} (hb : ts.all basisOk = true)
    (hbasis : ∀ t ∈ ts, ∀ i ∈ t.inputs, ∀ lf, i.leaf = some lf → i.bad = false → l.leafOf i.elem = some lf) :
    LeafOK l ts :=
  fun t ht i hi lf hlf => hbasis t ht i hi lf hlf (basisOk_iff.1 (List.all_eq_true.1 hb t ht) i hi lf hlf)

theorem mem_ids_iff {l : List (Nat × Nat)} {e : Nat} : e ∈ ids l ↔ ∃ p ∈ l, p.1 = e := by
  simp [ids]

/-- a leaf the set carries lies below the reverted block's parent count, so the block did not
create its element -/
theorem LeafOK.revert {l : Ledger} {ts : List Txn} (h : LeafOK l ts) (b : Blk) (hw : RevWF l b)
    (hp : ts.all (proofsOk b.leavesBefore) = true) : LeafOK (l.revert b) ts := by
  intro t ht i hi lf hlf
  have hl := h t ht i hi lf hlf
  refine leafOf_revert_kept l b hl fun hm => ?_
  obtain ⟨p, hp', e⟩ := mem_ids_iff.1 hm
  obtain ⟨h1, h2⟩ := hw.1 p hp'
  have hlt := all_proofsOk.1 hp t ht i hi lf hlf
  rw [e, hl] at h2
  rcases h2 with h2 | h2
  · cases h2; omega
  · cases h2

theorem LeafOK.apply {l : Ledger} {ts : List Txn} (h : LeafOK l ts) (b : Blk) (hw : AppWF l b)
    (hs : ∀ t ∈ ts, ∀ i ∈ t.inputs, i.elem ∉ ids b.spent) :
    LeafOK (l.apply b) (ts.map (mapInputs (confirmInp b.created))) := by
  refine (forall_inputs_map _ (fun i => ∀ lf, i.leaf = some lf → (l.apply b).leafOf i.elem = some lf) _).2 ?_
  intro t ht i hi lf hlf
  rw [confirmInp_elem]
  rcases confirmInp_leaf hlf with h' | ⟨_, hc⟩
  · exact leafOf_apply_kept l b (h t ht i hi lf h') (hs t ht i hi)
  · exact leafOf_apply_created l b (hw _ (lookup_some_mem hc)) hc (hs t ht i hi)

theorem revertLeg_leafOK : ∀ (rev : List Blk) (l : Ledger) (ts : List Txn), LeafOK l ts → RevPathWF l rev →
    (rev.all fun b => ts.all (proofsOk b.leavesBefore)) = true → LeafOK (rev.foldl Ledger.revert l) ts
  | [], _, _, h, _, _ => h
  | b :: rev, l, ts, h, hw, ha => by
    rw [List.all_cons, Bool.and_eq_true] at ha
    exact revertLeg_leafOK rev (l.revert b) ts (h.revert b hw.1 ha.1) hw.2 ha.2

theorem applyLeg_leafOK : ∀ (app : List Blk) (l : Ledger) (S : List Txn), LeafOK l S → AppPathWF l app →
    (∀ b ∈ app, ∀ t ∈ S, ∀ i ∈ t.inputs, i.elem ∉ ids b.spent) →
    LeafOK (app.foldl Ledger.apply l) (S.map (mapInputs (confirmSeq app)))
  | [], l, S, h, _, _ => by rwa [mapInputs_confirmSeq_nil, List.map_id]
  | b :: bs, l, S, h, hw, hs => by
    rw [mapInputs_confirmSeq_cons, ← List.map_map]
    refine applyLeg_leafOK bs _ _ (h.apply b hw.1 (hs b List.mem_cons_self)) hw.2 fun b' hb' => ?_
    refine (forall_inputs_map _ (fun i => i.elem ∉ ids b'.spent) _).2 fun t ht i hi => ?_
    rw [confirmInp_elem]
    exact hs b' (List.mem_cons_of_mem _ hb') t ht i hi

/-- **leaf indices after a rebase**: if core's verifier is sound at the basis (an accepted proof
means the ledger at the basis holds the element at that leaf), the path's blocks are consistent with
the ledgers they are reverted from / applied to, and no block of the apply leg spends an input of a
transaction that is not confirmed on the way, then every non-ephemeral input of every returned
transaction carries exactly the leaf index the ledger at the target has for its (unspent) element. -/
theorem rebase_leaves (cfg : Cfg) (ts : List Txn) (rev app : List Blk) (out : List Txn) (lfrom : Ledger)
    (h : rebase cfg ts (some (rev, app)) = some out)
    (hbasis : ∀ t ∈ ts, ∀ i ∈ t.inputs, ∀ lf, i.leaf = some lf → i.bad = false → lfrom.leafOf i.elem = some lf)
    (hrev : RevPathWF lfrom rev) (happ : AppPathWF (rev.foldl Ledger.revert lfrom) app)
    (hns : ∀ b ∈ app, ∀ t ∈ ts, t.id ∉ confirmedIds app → ∀ i ∈ t.inputs, i.elem ∉ ids b.spent) :
    LeafOK (ledgerAlong lfrom rev app) out := by
  obtain ⟨hb, _, hall, _⟩ := rebase_eq_some.1 h
  have h1 := revertLeg_leafOK rev lfrom ts (.of_basis hb hbasis) hrev hall
  rw [rebase_result cfg ts rev app out h]
  refine applyLeg_leafOK app _ _ (fun t ht => h1 t (List.mem_filter.1 ht).1) happ fun b hb2 t ht => ?_
  have hm := List.mem_filter.1 ht
  exact hns b hb2 t hm.1 (by simpa using hm.2)

theorem confirmSeq_of_leaf : ∀ (app : List Blk) {i : Inp} {lf : Nat}, i.leaf = some lf → confirmSeq app i = i
  | [], _, _, _ => rfl
  | b :: bs, _, _, h => by rw [confirmSeq, confirmInp_of_leaf h]; exact confirmSeq_of_leaf bs h

theorem confirmSeq_confirms : ∀ (app : List Blk) (i : Inp), i.leaf = none →
    (∃ b ∈ app, (b.created.lookup i.elem).isSome = true) → ((confirmSeq app i).leaf).isSome = true
  | [], _, _, h => by obtain ⟨_, hb, _⟩ := h; cases hb
  | b :: bs, i, hl, h => by
    rw [confirmSeq]
    cases hc : b.created.lookup i.elem with
    | some lf => rw [confirmInp_of_lookup_some hl hc, confirmSeq_of_leaf bs rfl]; rfl
    | none =>
      rw [confirmInp_of_lookup_none hc]
      obtain ⟨b', hb', hs⟩ := h
      rcases List.mem_cons.1 hb' with rfl | hb'
      · rw [hc] at hs; cases hs
      · exact confirmSeq_confirms bs i hl ⟨b', hb', hs⟩

theorem confirmSeq_stays : ∀ (app : List Blk) (i : Inp), (∀ b ∈ app, b.created.lookup i.elem = none) →
    confirmSeq app i = i
  | [], _, _ => rfl
  | b :: bs, i, h => by
    rw [confirmSeq, confirmInp_of_lookup_none (h b List.mem_cons_self)]
    exact confirmSeq_stays bs i fun b' hb' => h b' (List.mem_cons_of_mem _ hb')

/-! ## acceptance -/

/-- leaf counts along the apply leg: they do not shrink, and every created element lies below the
count of the block that creates it -/
def AppLeaves : Nat → List Blk → Prop
  | _, [] => True
  | n, b :: bs => n ≤ b.leavesAfter ∧ (∀ p ∈ b.created, p.2 < b.leavesAfter) ∧ AppLeaves b.leavesAfter bs

theorem applyLeg_accepts : ∀ (app : List Blk) (n : Nat) (ts : List Txn), LeafBound n ts → AppLeaves n app →
    (foldOpt rebaseApply (some ts) app).isSome = true
  | [], _, _, _, _ => rfl
  | b :: bs, n, ts, hb, hw => by
    have hrem : LeafBound b.leavesAfter
        ((ts.filter fun t => !(b.v2txns.map (·.id)).contains t.id).map (mapInputs (confirmInp b.created))) := by
      refine (forall_inputs_map _ (fun i => ∀ lf, i.leaf = some lf → lf < b.leavesAfter) _).2 ?_
      intro t ht i hi lf hlf
      rcases confirmInp_leaf hlf with h' | ⟨_, hc⟩
      · exact Nat.lt_of_lt_of_le (hb t (List.mem_filter.1 ht).1 i hi lf h') hw.1
      · exact hw.2.1 _ (lookup_some_mem hc)
    rw [foldOpt, rebaseApply_eq_some.2 ⟨rfl, hrem⟩]
    exact applyLeg_accepts bs b.leavesAfter _ hrem hw.2.2

/-- the revert leg's consistency including leaf counts: what the ledger holds and the block did not
create lies below the block's parent leaf count -/
def RevPathWF2 : Ledger → List Blk → Prop
  | _, [] => True
  | l, b :: bs => RevWF l b ∧ (∀ e lf, l.leafOf e = some lf → e ∉ ids b.created → lf < b.leavesBefore) ∧
      RevPathWF2 (l.revert b) bs

theorem revertLeg_accepts : ∀ (rev : List Blk) (l : Ledger) (ts : List Txn), LeafOK l ts → RevPathWF2 l rev →
    (∀ b ∈ rev, ∀ t ∈ ts, ∀ i ∈ t.inputs, i.elem ∉ ids b.created) →
    (rev.all fun b => ts.all (proofsOk b.leavesBefore)) = true ∧ LeafOK (rev.foldl Ledger.revert l) ts
  | [], _, _, h, _, _ => ⟨rfl, h⟩
  | b :: bs, l, ts, h, hw, hk => by
    have hp : ts.all (proofsOk b.leavesBefore) = true :=
      all_proofsOk.2 fun t ht i hi lf hl => hw.2.1 _ _ (h t ht i hi lf hl) (hk b List.mem_cons_self t ht i hi)
    obtain ⟨r1, r2⟩ := revertLeg_accepts bs (l.revert b) ts (h.revert b hw.1 hp) hw.2.2
      fun b' hb' => hk b' (List.mem_cons_of_mem _ hb')
    exact ⟨by rw [List.all_cons, hp, r1]; rfl, r2⟩

/-- **acceptance**: a set whose proofs core accepts at the basis is moved over any path within the
supported distance, provided no reverted block created an input of the set (nothing "vanishes"),
the path's blocks are consistent with the ledgers they meet, and the verifier is sound -/
theorem rebase_accepts (cfg : Cfg) (ts : List Txn) (rev app : List Blk) (lfrom : Ledger)
    (hb : ts.all basisOk = true) (hlen : rev.length + app.length ≤ cfg.maxReorg)
    (hbasis : ∀ t ∈ ts, ∀ i ∈ t.inputs, ∀ lf, i.leaf = some lf → i.bad = false → lfrom.leafOf i.elem = some lf)
    (hrev : RevPathWF2 lfrom rev)
    (hkept : ∀ b ∈ rev, ∀ t ∈ ts, ∀ i ∈ t.inputs, i.elem ∉ ids b.created)
    (hmid : ∀ e lf, (rev.foldl Ledger.revert lfrom).leafOf e = some lf → lf < (rev.foldl Ledger.revert lfrom).numLeaves)
    (happ : AppLeaves (rev.foldl Ledger.revert lfrom).numLeaves app) :
    (rebase cfg ts (some (rev, app))).isSome = true := by
  obtain ⟨r1, r2⟩ := revertLeg_accepts rev lfrom ts (.of_basis hb hbasis) hrev hkept
  obtain ⟨out, ho⟩ := Option.isSome_iff_exists.1
    (applyLeg_accepts app _ ts (fun t ht i hi lf hlf => hmid _ _ (r2 t ht i hi lf hlf)) happ)
  rw [rebase_eq_some.2 ⟨hb, hlen, r1, ho⟩]
  rfl

/-- a checkable form of "every leaf the ledger holds lies below `n`" -/
theorem leaves_lt_of_all (l : Ledger) (n : Nat) (h : (l.unspent.all fun p => decide (p.2 < n)) = true) :
    ∀ e lf, l.leafOf e = some lf → lf < n := by
  intro e lf he
  simpa using List.all_eq_true.1 h _ (lookup_some_mem he)

end Verif.Pool
