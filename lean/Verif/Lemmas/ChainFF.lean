/-
`AddBlocks` with a failing `Flush`: the rollback always succeeds and restores the best chain.
-/
import Verif.Model.ChainFF
import Verif.Lemmas.ChainKept
import Verif.Lemmas.ChainF

namespace Verif.Chain

theorem maybeReorgFF_spec {U m} (h : Inv U m) {cs : Nat} (hcs : m.states cs = true) :
    Inv U (maybeReorgFF U m cs).1 ∧
    ((∀ i, m.states i = true → (maybeReorgFF U m cs).1.states i = true) ∧
     (∀ i, m.recs i = some ⟨true, true⟩ → (maybeReorgFF U m cs).1.recs i = some ⟨true, true⟩)) ∧
    (maybeReorgFF U m cs).1.best = m.best ∧ (maybeReorgFF U m cs).1.notified = m.notified ∧
    ((heavier U cs m.tip = false ∧ (maybeReorgFF U m cs) = (m, none)) ∨
     (heavier U cs m.tip = true ∧ (reorgTo U m cs).2 = none ∧ (maybeReorgFF U m cs).2 = some .reorgFailed) ∨
     (heavier U cs m.tip = true ∧ (reorgTo U m cs).2 ≠ none ∧ (maybeReorgFF U m cs).2 = some .rollbackFailed)) := by
  unfold maybeReorgFF
  cases hh : heavier U cs m.tip with
  | false => simp [h]
  | true =>
    simp only [if_true]
    obtain ⟨i1, mono1, _, r2, _⟩ := reorgTo_run h hcs
    rcases hr : reorgTo U m cs with ⟨m1, e1⟩
    rw [hr] at i1 mono1 r2
    obtain ⟨b1, b2, b3, b4⟩ := rollback_restores h i1 mono1
    have mono2 := mono1.trans b4
    rcases hr2 : reorgTo U m1 m.tip with ⟨m2, e2⟩
    rw [hr2] at b1 b2 b3 mono2
    obtain rfl : e2 = none := b1
    cases e1 with
    | none =>
      simp only [hr2]
      exact ⟨b3, ⟨mono2.states, mono2.supp⟩, b2, mono2.notified, .inr (.inl ⟨trivial, trivial, trivial⟩)⟩
    | some e =>
      obtain rfl : e = .invalidBlock := by simpa using r2 (by simp)
      simp only [hr2]
      exact ⟨b3, ⟨mono2.states, mono2.supp⟩, b2, mono2.notified, .inr (.inr ⟨trivial, by simp, trivial⟩)⟩

theorem addBlocksFF_spec {U} (hU : WFU U) {m : Mgr} (h : Inv U m) (batch : List Nat) :
    Inv U (addBlocksFF U m batch).1 ∧
    (∀ i, m.states i = true → (addBlocksFF U m batch).1.states i = true) ∧
    (addBlocksFF U m batch).1.best = m.best ∧ (addBlocksFF U m batch).1.notified = m.notified := by
  cases batch with
  | nil => exact ⟨h, fun _ x => x, rfl, rfl⟩
  | cons b bs =>
    simp only [addBlocksFF]
    obtain ⟨j1, j2, j3, j4, j5, _⟩ := addLoop_spec hU (b :: bs) m m.tip h h.tip_state
    rcases hg : addBlocks.go U (b :: bs) m m.tip with ⟨m1, e, cs⟩
    rw [hg] at j1 j2 j3 j4 j5
    simp only at j1 j2 j3 j4 j5
    cases e with
    | some e => exact ⟨j1, j4.1, j2, j3⟩
    | none =>
      simp only
      obtain ⟨k1, k2, k3, k4, _⟩ := maybeReorgFF_spec j1 j5
      exact ⟨k1, fun i hi => k2.1 i (j4.1 i hi), by rw [k3, j2], by rw [k4, j3]⟩

/-! erasure of the `full` bookkeeping -/

theorem maybeReorgFFF_m (U : Nat → Blk) (s : MgrF) (cs : Nat) :
    ((maybeReorgFFF U s cs).1.m, (maybeReorgFFF U s cs).2) = maybeReorgFF U s.m cs := by
  unfold maybeReorgFFF maybeReorgFF
  rw [← reorgToF_m U s cs]
  split
  · rcases reorgToF U s cs with ⟨s1, e⟩
    have h2 := reorgToF_m U s1 s.m.tip
    rcases e with _ | (_ | _ | _ | _)
    case some.panic => rfl
    all_goals
      simp only [← h2]
      rcases reorgToF U s1 s.m.tip with ⟨s2, _ | e2⟩
      · rfl
      · cases e2 <;> rfl
  · rfl

theorem addBlocksFFF_m (U : Nat → Blk) (s : MgrF) (batch : List Nat) :
    ((addBlocksFFF U s batch).1.m, (addBlocksFFF U s batch).2) = addBlocksFF U s.m batch := by
  cases batch with
  | nil => rfl
  | cons b bs =>
    unfold addBlocksFFF addBlocksFF
    simp only [← addLoopF_m U (b :: bs) s s.m.tip]
    rcases addLoopF U (b :: bs) s s.m.tip with ⟨s1, _ | e, cs⟩
    · exact maybeReorgFFF_m U s1 cs
    · rfl

end Verif.Chain
