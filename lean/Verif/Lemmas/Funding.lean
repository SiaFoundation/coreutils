/-
Helper lemmas for M6 (`Funding`): the scan of the pool, the selection loops, the reservation map
and the invariant behind `outstanding_disjoint`.

Each request is characterised once (`select_shape`, `fund_spec`, `redistribute_spec`, `split_spec`):
it leaves the wallet as it was, or it ends in `State.reserve`, the one place where outputs get
reserved; conservation, failure and the invariant are read off these.
-/
import Verif.Model.Funding

namespace Verif.Funding
open List

theorem ite_eq_cases {α} {c : Prop} [Decidable c] {a b r : α} (h : (if c then a else b) = r) :
    c ∧ a = r ∨ ¬c ∧ b = r := by
  split at h
  · exact .inl ⟨‹c›, h⟩
  · exact .inr ⟨‹¬c›, h⟩

theorem sumV_nil : sumV [] = 0 := rfl
theorem sumV_cons (u : Utxo) (l : List Utxo) : sumV (u :: l) = u.value + sumV l := by
  simp [sumV]
theorem sumV_append (a b : List Utxo) : sumV (a ++ b) = sumV a + sumV b := by
  simp [sumV]

theorem sumV_perm {a b : List Utxo} (h : a.Perm b) : sumV a = sumV b := by
  unfold sumV; exact (h.map _).sum_nat

/-! ### the reservation map -/

theorem foldl_setLock (exp : Nat) (ids : List Nat) (l : Nat → Nat) (j : Nat) :
    (ids.foldl (setLock exp) l) j = if j ∈ ids then exp else l j := by
  induction ids generalizing l with
  | nil => simp
  | cons i ids ih =>
    simp only [List.foldl_cons, ih, setLock, List.mem_cons]
    by_cases h1 : j ∈ ids <;> by_cases h2 : j = i <;> simp [h1, h2]

theorem lockUTXOs_eq (s : State) (ids : List Nat) :
    s.lockUTXOs ids = { s with locked := fun j =>
      if j ∈ ids then s.now + s.cfg.reservation else cleanLocked s.now s.locked j } := by
  unfold State.lockUTXOs
  cases ids with
  | nil => simp
  | cons i ids =>
    simp only [List.isEmpty_cons, Bool.false_eq_true, ↓reduceIte]
    congr 1
    funext j
    exact foldl_setLock ..

theorem cleanLocked_le (now : Nat) (l : Nat → Nat) (j : Nat) : cleanLocked now l j ≤ l j := by
  unfold cleanLocked; split <;> omega

theorem cleanLocked_of_le (now : Nat) (l : Nat → Nat) (j : Nat) (h : now ≤ l j) :
    cleanLocked now l j = l j := by
  unfold cleanLocked; split <;> omega

/-- the common end of `Fund*`, `Redistribute` and `SplitUTXO`: the inputs `ids` are reserved and
the requests `news` recorded -/
def State.reserve (s : State) (news : List FTxn) (ids : List Nat) : State :=
  let s1 := s.lockUTXOs ids
  { s1 with reg := s1.reg ++ news, out := s1.out ++ news }

theorem reserve_eq (s : State) (news : List FTxn) (ids : List Nat) :
    s.reserve news ids = { s with
      locked := fun j => if j ∈ ids then s.now + s.cfg.reservation else cleanLocked s.now s.locked j
      reg := s.reg ++ news, out := s.out ++ news } := by
  unfold State.reserve
  rw [lockUTXOs_eq]

theorem reserve_accepts (s : State) (news : List FTxn) (ids : List Nat) (v2 : Bool) (l : List Nat) :
    (s.reserve news ids).accepts v2 l = s.accepts v2 l := by
  rw [reserve_eq]; rfl

/-! ### the scan of the pool -/

def inputIds (txns : List PTxn) : List Nat := txns.flatMap fun t => t.ins.map (·.id)

section
variable {fIn fOut : Bool} {outs : PTxn → Bool}

theorem addOut_spent (os : List POut) (sc : Scan) :
    (os.foldl (Scan.addOut fOut) sc).spent = sc.spent := by
  induction os generalizing sc with
  | nil => rfl
  | cons o os ih =>
    simp only [List.foldl_cons, ih, Scan.addOut]
    split <;> rfl

theorem addIn_spent (ins : List PIn) (sc : Scan) (id : Nat) :
    id ∈ (ins.foldl (Scan.addIn fIn) sc).spent ↔
      id ∈ sc.spent ∨ ∃ i ∈ ins, (fIn && !i.own) = false ∧ i.id = id := by
  induction ins generalizing sc with
  | nil => simp
  | cons i ins ih =>
    simp only [List.foldl_cons, ih, List.mem_cons, exists_eq_or_imp]
    unfold Scan.addIn
    by_cases hi : (fIn && !i.own) = true
    · simp [hi]
    · simp only [hi, Bool.false_eq_true, ↓reduceIte, List.mem_cons, true_and]
      rw [or_assoc, or_left_comm, eq_comm]

theorem addTxn_spent (sc : Scan) (t : PTxn) (id : Nat) :
    id ∈ (Scan.addTxn fIn fOut outs sc t).spent ↔
      id ∈ sc.spent ∨ ∃ i ∈ t.ins, (fIn && !i.own) = false ∧ i.id = id := by
  unfold Scan.addTxn
  split
  · rw [addOut_spent]; exact addIn_spent ..
  · exact addIn_spent ..

theorem foldl_addTxn_spent (txns : List PTxn) (sc : Scan) (id : Nat) :
    id ∈ (txns.foldl (Scan.addTxn fIn fOut outs) sc).spent ↔
      id ∈ sc.spent ∨ ∃ t ∈ txns, ∃ i ∈ t.ins, (fIn && !i.own) = false ∧ i.id = id := by
  induction txns generalizing sc with
  | nil => simp
  | cons t txns ih =>
    simp only [List.foldl_cons, ih, addTxn_spent, List.mem_cons, exists_eq_or_imp, or_assoc]

theorem scan_spent {txns : List PTxn} {id : Nat} :
    id ∈ (scanTxns fIn fOut outs txns).spent ↔
      ∃ t ∈ txns, ∃ i ∈ t.ins, (fIn && !i.own) = false ∧ i.id = id := by
  unfold scanTxns; rw [foldl_addTxn_spent]; simp

theorem scan_spent_false {fOut : Bool} {outs : PTxn → Bool} {txns : List PTxn} {id : Nat} :
    id ∈ (scanTxns false fOut outs txns).spent ↔ id ∈ inputIds txns := by
  simp [scan_spent, inputIds]

theorem inPool_eq (s : State) : s.inPool = inputIds (s.poolV1 ++ s.poolV2) := rfl

/-! ### the outputs the scan keeps -/

theorem addTxn_induction (P : Scan → Prop) {t : PTxn}
    (hIn : ∀ sc, P sc → ∀ i ∈ t.ins, P (Scan.addIn fIn sc i))
    (hOut : outs t = true → ∀ sc, P sc → ∀ o ∈ t.outs, P (Scan.addOut fOut sc o))
    (sc : Scan) (h : P sc) : P (Scan.addTxn fIn fOut outs sc t) := by
  unfold Scan.addTxn
  have h1 := List.foldlRecOn t.ins (Scan.addIn fIn) h hIn
  split
  · exact List.foldlRecOn t.outs (Scan.addOut fOut) h1 (hOut ‹_›)
  · exact h1

theorem scan_induction (P : Scan → Prop) {txns : List PTxn}
    (hIn : ∀ sc, P sc → ∀ t ∈ txns, ∀ i ∈ t.ins, P (Scan.addIn fIn sc i))
    (hOut : ∀ sc, P sc → ∀ t ∈ txns, outs t = true → ∀ o ∈ t.outs, P (Scan.addOut fOut sc o))
    (sc : Scan) (h : P sc) : P (txns.foldl (Scan.addTxn fIn fOut outs) sc) :=
  List.foldlRecOn txns _ h fun sc h t ht =>
    addTxn_induction P (fun sc h => hIn sc h t ht) (fun ho sc h => hOut sc h t ht ho) sc h

theorem created_nodup (txns : List PTxn) :
    ((scanTxns fIn fOut outs txns).created.map (·.id)).Nodup := by
  unfold scanTxns
  refine scan_induction (fun sc => (sc.created.map (·.id)).Nodup) ?_ ?_ ⟨[], []⟩ List.nodup_nil
  · intro sc h _ _ i _
    unfold Scan.addIn; split
    · exact h
    · exact ((List.filter_sublist (l := sc.created)).map _).nodup h
  · intro sc h _ _ _ o _
    unfold Scan.addOut; split
    · exact h
    · rw [List.map_append, List.nodup_append]
      refine ⟨((List.filter_sublist (l := sc.created)).map _).nodup h, List.pairwise_singleton _ _, ?_⟩
      intro a ha b hb
      obtain ⟨p, hp, rfl⟩ := List.mem_map.mp ha
      rw [List.mem_singleton.mp hb]
      exact bne_iff_ne.mp (List.mem_filter.mp hp).2

theorem created_origin {fIn fOut : Bool} {outs : PTxn → Bool} {txns : List PTxn} :
    ∀ o ∈ (scanTxns fIn fOut outs txns).created, ∃ t ∈ txns, outs t = true ∧ o ∈ t.outs := by
  unfold scanTxns
  refine scan_induction (fun sc => ∀ o ∈ sc.created, ∃ t ∈ txns, outs t = true ∧ o ∈ t.outs)
    ?_ ?_ _ (fun _ ho => nomatch ho)
  · intro sc h _ _ i _
    unfold Scan.addIn; split
    · exact h
    · exact fun o ho => h o (List.mem_filter.mp ho).1
  · intro sc h t ht hout p hp
    unfold Scan.addOut; split
    · exact h
    · intro o ho
      rcases List.mem_append.mp ho with ho | ho
      · exact h o (List.mem_filter.mp ho).1
      · exact ⟨t, ht, hout, List.mem_singleton.mp ho ▸ hp⟩

end

/-- an input never names an output of the same or a later pooled transaction (the pool lists
parents before children and an output id is a hash of the transaction that creates it) -/
def PoolOrdered : List PTxn → Prop
  | [] => True
  | t :: rest => (∀ i ∈ t.ins, ∀ t' ∈ t :: rest, ∀ o ∈ t'.outs, o.id ≠ i.id) ∧ PoolOrdered rest

/-- while the transactions `l` are still to be scanned: no kept output is spent, and none of `l`
creates an output that is spent already -/
private def J (sc : Scan) (l : List PTxn) : Prop :=
  (∀ o ∈ sc.created, o.id ∉ sc.spent) ∧ (∀ id ∈ sc.spent, ∀ t' ∈ l, ∀ o ∈ t'.outs, o.id ≠ id)

private theorem J_addTxn {fOut : Bool} {outs : PTxn → Bool} {t : PTxn} {rest : List PTxn}
    (hord : ∀ i ∈ t.ins, ∀ t' ∈ t :: rest, ∀ o ∈ t'.outs, o.id ≠ i.id) (sc : Scan) (h : J sc (t :: rest)) :
    J (Scan.addTxn false fOut outs sc t) (t :: rest) := by
  refine addTxn_induction (J · (t :: rest)) ?_ ?_ sc h
  · intro sc h i hi
    refine ⟨?_, ?_⟩
    · intro o ho
      have ho := List.mem_filter.mp ho
      exact fun hm => (List.mem_cons.mp hm).elim (bne_iff_ne.mp ho.2) (h.1 o ho.1)
    · intro id hid t' ht' o ho
      rcases List.mem_cons.mp hid with rfl | hid
      · exact hord i hi t' ht' o ho
      · exact h.2 id hid t' ht' o ho
  · intro _ sc h o ho
    unfold Scan.addOut
    split
    · exact h
    · refine ⟨?_, h.2⟩
      intro p hp
      rcases List.mem_append.mp hp with hp | hp
      · exact h.1 p (List.mem_filter.mp hp).1
      · rw [List.mem_singleton.mp hp]
        exact fun hmem => h.2 _ hmem t (List.mem_cons_self ..) o ho rfl

theorem created_unspent {fOut : Bool} {outs : PTxn → Bool} {txns : List PTxn} (hord : PoolOrdered txns) :
    ∀ o ∈ (scanTxns false fOut outs txns).created, o.id ∉ inputIds txns := by
  suffices key : ∀ (l : List PTxn) (sc : Scan), PoolOrdered l → J sc l →
      ∀ o ∈ (l.foldl (Scan.addTxn false fOut outs) sc).created,
        o.id ∉ (l.foldl (Scan.addTxn false fOut outs) sc).spent by
    intro o ho hmem
    exact key txns ⟨[], []⟩ hord ⟨(fun _ h => nomatch h), (fun _ h => nomatch h)⟩ o ho
      (scan_spent_false.mpr hmem)
  intro l
  induction l with
  | nil => intro sc _ h; exact h.1
  | cons t rest ih =>
    intro sc hord h
    have h2 := J_addTxn (fOut := fOut) (outs := outs) hord.1 sc h
    exact ih _ hord.2 ⟨h2.1, fun id hid t' ht' => h2.2 id hid t' (List.mem_cons_of_mem _ ht')⟩

/-! ### the selection loops -/

theorem takeFund_append (amount sum : Nat) (l : List Utxo) :
    (takeFund amount sum l).1 ++ (takeFund amount sum l).2 = l := by
  fun_induction takeFund amount sum l with
  | case1 => rfl
  | case2 => rfl
  | case3 _ u l _ ih => exact congrArg (u :: ·) ih

theorem takeFund_lt (amount sum : Nat) (l : List Utxo) :
    sum + sumV (takeFund amount sum l).1 < amount ↔ sum + sumV l < amount := by
  fun_induction takeFund amount sum l with
  | case1 => exact Iff.rfl
  | case2 _ u l h => rw [sumV_cons, sumV_nil]; omega
  | case3 sum u l _ ih => rw [sumV_cons, sumV_cons]; omega

theorem takeUnconf_prefix (amount sum : Nat) (l : List Utxo) : takeUnconf amount sum l <+: l := by
  fun_induction takeUnconf amount sum l with
  | case1 => exact List.prefix_refl _
  | case2 _ u l _ => exact ⟨l, rfl⟩
  | case3 _ u l _ ih => exact (List.prefix_cons_inj u).mpr ih

theorem takeUnconf_covers (amount sum : Nat) (l : List Utxo) (h : amount ≤ sum + sumV l) :
    amount ≤ sum + sumV (takeUnconf amount sum l) := by
  fun_induction takeUnconf amount sum l with
  | case1 => exact h
  | case2 sum u l hc => rw [sumV_cons, sumV_nil]; omega
  | case3 sum u l _ ih =>
    rw [sumV_cons] at h ⊢
    have := ih (by omega)
    omega

theorem defragLoop_prefix (maxIn n : Nat) (l : List Utxo) : defragLoop maxIn n l <+: l := by
  fun_induction defragLoop maxIn n l with
  | case1 => exact List.prefix_refl _
  | case2 => exact List.nil_prefix
  | case3 _ u l _ ih => exact (List.prefix_cons_inj u).mpr ih

theorem defrag_sublist (cfg : Cfg) (n : Nat) (rest : List Utxo) : (defrag cfg n rest).Sublist rest.reverse := by
  unfold defrag
  split
  · refine (defragLoop_prefix _ _ _).sublist.trans ?_
    split
    · exact (List.drop_sublist _ _).reverse
    · exact List.Sublist.refl _
  · exact List.nil_sublist _

theorem mem_candidates (s : State) (v2 : Bool) (u : Utxo) :
    u ∈ s.candidates v2 ↔
      u ∈ s.utxos ∧ s.isLocked u.id = false ∧ u.id ∉ s.inPool ∧ u.maturity ≤ s.height := by
  unfold State.candidates State.scanSelect
  simp only [List.mem_filter, Bool.and_eq_true, Bool.not_eq_true', Bool.or_eq_false_iff,
    List.contains_eq_mem, decide_eq_false_iff_not]
  rw [scan_spent_false, inPool_eq, and_assoc, Nat.not_lt]

theorem mem_unconfCandidates {s : State} {v2 : Bool} {u : Utxo} (h : u ∈ s.unconfCandidates v2) :
    ∃ o ∈ (s.scanSelect v2).created, o.own = true ∧ s.isLocked o.id = false ∧ u = o.toUtxo := by
  unfold State.unconfCandidates at h
  simp only [List.mem_map, List.mem_filter, Bool.and_eq_true, Bool.not_eq_true'] at h
  obtain ⟨o, ⟨ho, hown, hl⟩, rfl⟩ := h
  exact ⟨o, ho, hown, hl, rfl⟩

/-- a successful selection: a prefix `taken` of the sorted candidates, a prefix `ut` of the sorted
unconfirmed ones (only with `useUnconfirmed`), and `defr`, picked from the untaken `rest` to defragment -/
theorem select_shape {S : Sorter} {s : State} {amount inputs : Nat} {uc v2 : Bool} {sel : List Utxo}
    (h : s.selectUTXOs S amount inputs uc v2 = some sel) :
    (amount = 0 ∧ sel = []) ∨
    ∃ taken rest ut defr, taken ++ rest = S.sort (s.candidates v2) ∧
      ut <+: S.sort (s.unconfCandidates v2) ∧ (ut ≠ [] → uc = true) ∧
      defr.Sublist rest.reverse ∧ sel = taken ++ ut ++ defr ∧ amount ≤ sumV (taken ++ ut) := by
  unfold State.selectUTXOs at h
  rcases ite_eq_cases h with ⟨h0, h⟩ | ⟨_, h⟩
  · exact .inl ⟨h0, (Option.some.inj h).symm⟩
  right
  simp only at h
  have happ := takeFund_append amount 0 (S.sort (s.candidates v2))
  rcases ite_eq_cases h with ⟨hc, h⟩ | ⟨_, h⟩
  · obtain ⟨_, rfl⟩ := Bool.and_eq_true_iff.mp hc
    simp only [↓reduceIte] at h
    rcases ite_eq_cases h with ⟨_, h⟩ | ⟨_, h⟩
    · cases h
    · refine ⟨_, _, _, _, happ, takeUnconf_prefix amount _ _, fun _ => rfl, defrag_sublist _ _ _,
        (Option.some.inj h).symm, ?_⟩
      rw [sumV_append]; omega
  · rcases ite_eq_cases h with ⟨_, h⟩ | ⟨_, h⟩
    · cases h
    · refine ⟨_, _, [], _, happ, List.nil_prefix, fun hne => absurd rfl hne, defrag_sublist _ _ _,
        by rw [List.append_nil]; exact (Option.some.inj h).symm, ?_⟩
      rw [List.append_nil]; omega

theorem select_mem {S : Sorter} {s : State} {amount inputs : Nat} {uc v2 : Bool} {sel : List Utxo}
    (h : s.selectUTXOs S amount inputs uc v2 = some sel) :
    ∀ u ∈ sel, u ∈ s.candidates v2 ∨ (uc = true ∧ u ∈ s.unconfCandidates v2) := by
  intro u hu
  rcases select_shape h with ⟨_, rfl⟩ | ⟨taken, rest, ut, defr, hs, hut, huc, hd, rfl, _⟩
  · cases hu
  · have hsorted : ∀ x, x ∈ taken ++ rest → x ∈ s.candidates v2 := by
      intro x hx; rw [hs] at hx; exact (S.perm _).mem_iff.mp hx
    simp only [List.mem_append] at hu
    rcases hu with (hu | hu) | hu
    · exact .inl (hsorted u (List.mem_append_left _ hu))
    · exact .inr ⟨huc (List.ne_nil_of_mem hu), (S.perm _).mem_iff.mp (hut.subset hu)⟩
    · exact .inl (hsorted u (List.mem_append_right _ (List.mem_reverse.mp (hd.subset hu))))

theorem select_ge {S : Sorter} {s : State} {amount inputs : Nat} {uc v2 : Bool} {sel : List Utxo}
    (h : s.selectUTXOs S amount inputs uc v2 = some sel) : amount ≤ sumV sel := by
  rcases select_shape h with ⟨h0, rfl⟩ | ⟨taken, rest, ut, defr, _, _, _, _, rfl, hge⟩
  · omega
  · simp only [sumV_append] at *; omega

theorem select_unlocked {S : Sorter} {s : State} {amount inputs : Nat} {uc v2 : Bool} {sel : List Utxo}
    (h : s.selectUTXOs S amount inputs uc v2 = some sel) : ∀ u ∈ sel, s.isLocked u.id = false := by
  intro u hu
  rcases select_mem h u hu with hc | ⟨_, hc⟩
  · exact ((mem_candidates s v2 u).mp hc).2.1
  · obtain ⟨o, _, _, hl, rfl⟩ := mem_unconfCandidates hc
    exact hl

/-- `hlag`: the store may lag behind the manager, never lead it -/
theorem select_accepted {S : Sorter} {s : State} {amount inputs : Nat} {uc v2 : Bool} {sel : List Utxo}
    (h : s.selectUTXOs S amount inputs uc v2 = some sel)
    (hord : PoolOrdered (s.poolV1 ++ s.poolV2)) (hlag : s.height ≤ s.cmHeight) : s.accepts v2 (sel.map (·.id)) = true := by
  unfold State.accepts
  simp only [List.all_map, List.all_eq_true, Function.comp]
  intro u hu
  have key : u.id ∉ (s.scanPool false false).spent ∧
      ((∃ v ∈ s.utxos, v.id = u.id ∧ v.maturity ≤ s.cmHeight + 1) ∨ ∃ o ∈ (s.scanSelect v2).created, o.id = u.id) := by
    rw [State.scanPool, scan_spent_false, ← inPool_eq]
    rcases select_mem h u hu with hc | ⟨_, hc⟩
    · have hm := (mem_candidates s v2 u).mp hc
      exact ⟨hm.2.2.1, .inl ⟨u, hm.1, rfl, by omega⟩⟩
    · obtain ⟨o, ho, _, _, rfl⟩ := mem_unconfCandidates hc
      exact ⟨created_unspent hord o ho, .inr ⟨o, ho, rfl⟩⟩
  simpa using key

/-! ### a selection never names an output twice -/

/-- the store lists every output once and no pooled transaction creates an output the store holds -/
structure StoreWF (s : State) : Prop where
  nodup : (s.utxos.map (·.id)).Nodup
  fresh : ∀ t ∈ s.poolV1 ++ s.poolV2, ∀ o ∈ t.outs, ∀ u ∈ s.utxos, o.id ≠ u.id

theorem candidates_sublist (s : State) (v2 : Bool) : (s.candidates v2).Sublist s.utxos := by
  unfold State.candidates; exact List.filter_sublist

theorem unconf_ids_nodup (s : State) (v2 : Bool) : ((s.unconfCandidates v2).map (·.id)).Nodup := by
  unfold State.unconfCandidates
  rw [List.map_map]
  exact (List.filter_sublist.map _).nodup (created_nodup _)

theorem select_nodup {S : Sorter} {s : State} {amount inputs : Nat} {uc v2 : Bool} {sel : List Utxo}
    (h : s.selectUTXOs S amount inputs uc v2 = some sel) (hwf : StoreWF s) : (sel.map (·.id)).Nodup := by
  rcases select_shape h with ⟨_, rfl⟩ | ⟨taken, rest, ut, defr, hs, hut, _, hd, rfl, _⟩
  · exact List.nodup_nil
  · -- the confirmed part `taken ++ defr` sits in a permutation of the candidates, a sublist of the store
    have h1 : (taken ++ defr).Sublist (taken ++ rest.reverse) := (List.Sublist.refl taken).append hd
    have h2 : (taken ++ rest.reverse).Perm (s.candidates v2) := by
      refine (List.Perm.append_left taken (List.reverse_perm rest)).trans ?_
      rw [hs]; exact S.perm _
    have hc : ((taken ++ defr).map (·.id)).Nodup :=
      (h1.map _).nodup ((h2.map _).nodup_iff.mpr (((candidates_sublist s v2).map _).nodup hwf.nodup))
    have hu : (ut.map (·.id)).Nodup :=
      (hut.sublist.map _).nodup (((S.perm _).map _).nodup_iff.mpr (unconf_ids_nodup s v2))
    -- and the pool creates no output the store holds
    have hdisj : ∀ a ∈ ut.map (·.id), ∀ b ∈ (taken ++ defr).map (·.id), a ≠ b := by
      intro a ha b hb
      obtain ⟨y, hy, rfl⟩ := List.mem_map.mp ha
      obtain ⟨x, hx, rfl⟩ := List.mem_map.mp hb
      have hxU : x ∈ s.utxos := (candidates_sublist s v2).subset (h2.mem_iff.mp (h1.subset hx))
      obtain ⟨o, ho, _, _, rfl⟩ := mem_unconfCandidates ((S.perm _).mem_iff.mp (hut.subset hy))
      obtain ⟨t, ht, _, hot⟩ := created_origin o ho
      exact hwf.fresh t ht o hot x hxU
    rw [List.append_assoc, ((List.perm_append_comm_assoc taken ut defr).map _).nodup_iff, List.map_append,
      List.nodup_append]
    exact ⟨hu, hc, hdisj⟩

/-! ### the reservation invariant -/

/-- The invariant behind `outstanding_disjoint`, over the four components it reads: the
outstanding requests, the clock, the reservation map and the reservation period.
`held`: every input of a request whose period has not ended is reserved at least until then;
`disj`: requests whose periods have not ended share no input; `bounded`: no reservation outlives
one period from now. -/
structure Inv' (out : List FTxn) (now : Nat) (locked : Nat → Nat) (res : Nat) : Prop where
  held : ∀ r ∈ out, now < r.expiry → ∀ u ∈ r.ins, r.expiry ≤ locked u.id
  disj : out.Pairwise fun a b => now < a.expiry → now < b.expiry → ∀ u ∈ a.ins, ∀ v ∈ b.ins, u.id ≠ v.id
  bounded : ∀ id, locked id ≤ now + res

def Inv (s : State) : Prop := Inv' s.out s.now s.locked s.cfg.reservation

section
variable {out : List FTxn} {now : Nat} {locked : Nat → Nat} {res : Nat} (h : Inv' out now locked res)
include h

theorem inv'_release (ids : List Nat) :
    Inv' (out.filter fun t => !(t.ins.any fun u => ids.contains u.id)) now
      (cleanLocked now (fun id => if ids.contains id then 0 else locked id)) res := by
  refine ⟨?_, ?_, ?_⟩
  · intro r hr hlive u hu
    simp only [List.mem_filter, Bool.not_eq_true', List.any_eq_false, List.contains_eq_mem,
      decide_eq_true_eq] at hr
    have hge := h.held r hr.1 hlive u hu
    have hnot : ¬ u.id ∈ ids := hr.2 u hu
    rw [cleanLocked_of_le] <;> simp [hnot] <;> omega
  · exact h.disj.sublist List.filter_sublist
  · intro j
    refine Nat.le_trans (cleanLocked_le _ _ _) ?_
    show (if ids.contains j = true then 0 else locked j) ≤ now + res
    split
    · omega
    · exact h.bounded j

theorem inv'_tick (d : Nat) : Inv' out (now + d) locked res := by
  refine ⟨?_, ?_, ?_⟩
  · intro r hr hlive u hu; exact h.held r hr (by omega) u hu
  · exact h.disj.imp (fun hab ha hb => hab (by omega) (by omega))
  · intro j; have := h.bounded j; omega

end

theorem inv'_restart (now res : Nat) : Inv' [] now (fun _ => 0) res :=
  ⟨by simp, List.Pairwise.nil, by intro _; omega⟩

theorem inv_reserve {s : State} (h : Inv s) (news : List FTxn) (ids : List Nat)
    (hids : ∀ t ∈ news, ∀ u ∈ t.ins, u.id ∈ ids)
    (hunl : ∀ id ∈ ids, s.isLocked id = false)
    (hexp : ∀ t ∈ news, t.expiry = s.now + s.cfg.reservation)
    (hpd : news.Pairwise fun a b => ∀ u ∈ a.ins, ∀ v ∈ b.ins, u.id ≠ v.id) :
    Inv (s.reserve news ids) := by
  have hold : ∀ r ∈ s.out, s.now < r.expiry → ∀ u ∈ r.ins, u.id ∉ ids := by
    intro r hr hlive u hu hmem
    have := h.held r hr hlive u hu
    have := of_decide_eq_false (hunl _ hmem)
    omega
  rw [reserve_eq]
  unfold Inv
  simp only
  refine ⟨?_, ?_, ?_⟩
  · intro r hr hlive u hu
    rcases List.mem_append.mp hr with hr | hr
    · have hge := h.held r hr hlive u hu
      simp only [hold r hr hlive u hu, ↓reduceIte]
      rw [cleanLocked_of_le _ _ _ (by omega)]; exact hge
    · simp [hids r hr u hu, hexp r hr]
  · refine List.pairwise_append.mpr ⟨h.disj, hpd.imp (fun hab _ _ => hab), ?_⟩
    intro a ha b hb hla _ u hu v hv heq
    exact hold a ha hla u hu (heq ▸ hids b hb v hv)
  · intro j
    show (if j ∈ ids then _ else cleanLocked s.now s.locked j) ≤ _
    split
    · exact Nat.le_refl _
    · exact Nat.le_trans (cleanLocked_le _ _ _) (h.bounded j)

/-! ### Redistribute -/

theorem takeRedist_prefix (want fpi of : Nat) (n sum : Nat) (l : List Utxo) :
    takeRedist want fpi of n sum l <+: l := by
  fun_induction takeRedist want fpi of n sum l with
  | case1 => exact List.prefix_refl _
  | case2 _ _ u l _ => exact ⟨l, rfl⟩
  | case3 _ _ u l _ ih => exact (List.prefix_cons_inj u).mpr ih

theorem prefix_append_drop {α} (p q l : List α) (hp : p <+: l) (hq : q <+: l.drop p.length) : p ++ q <+: l := by
  obtain ⟨r, rfl⟩ := hp
  simp only [List.drop_left] at hq
  exact (List.prefix_append_right_inj p).mpr hq

theorem redistLoop_spec {cfg : Cfg} {amount fpb : Nat} {fuel outputs : Nat} {utxos : List Utxo}
    {acc res : List RTxn} (h : redistLoop cfg amount fpb fuel outputs utxos acc = some res) :
    ∃ rest, res = acc ++ rest ∧ (rest.flatMap (·.ins)) <+: utxos ∧
      ∀ t ∈ rest, sumV t.ins = amount * t.nout + t.change + t.fee := by
  fun_induction redistLoop cfg amount fpb fuel outputs utxos acc
  case case4 => cases h
  case case5 ih =>
    obtain ⟨rest, hres, hpre, hcons⟩ := ih h
    rw [List.append_assoc, List.singleton_append] at hres
    refine ⟨_, hres, ?_, ?_⟩
    · rw [List.flatMap_cons]
      exact prefix_append_drop _ _ _ (takeRedist_prefix ..) hpre
    · intro t ht
      rcases List.mem_cons.mp ht with rfl | ht
      · simp only; omega
      · exact hcons t ht
  -- the loop stops: nothing is appended
  all_goals exact ⟨[], by rw [← Option.some.inj h, List.append_nil], List.nil_prefix, fun _ ht => nomatch ht⟩

theorem zipHandles_map {β} (f : Nat → RTxn → FTxn) (g : FTxn → β) (g' : RTxn → β) (hg : ∀ h r, g (f h r) = g' r)
    (h0 : Nat) (l : List RTxn) : (zipHandles f h0 l).map g = l.map g' := by
  induction l generalizing h0 with
  | nil => rfl
  | cons r l ih => simp [zipHandles, hg, ih]

theorem mem_redistCandidates {S : Sorter} {s : State} {outputs amount : Nat} {u : Utxo}
    (h : u ∈ (s.redistCandidates S outputs amount).2) :
    u ∈ s.utxos ∧ s.isLocked u.id = false ∧ u.id ∉ s.inPool ∧ u.maturity ≤ s.height := by
  unfold State.redistCandidates at h
  simp only at h
  have := (S.perm _).mem_iff.mp h
  simp only [List.mem_filter, Bool.and_eq_true, Bool.not_eq_true', Bool.or_eq_false_iff,
    List.contains_eq_mem, decide_eq_false_iff_not, decide_eq_true_eq, ge_iff_le] at this
  obtain ⟨⟨hu, ⟨hl, hp⟩, hm⟩, _⟩ := this
  exact ⟨hu, hl, hp, hm⟩

theorem redistCandidates_nodup (S : Sorter) (s : State) (outputs amount : Nat)
    (hn : (s.utxos.map (·.id)).Nodup) : (((s.redistCandidates S outputs amount).2).map (·.id)).Nodup := by
  unfold State.redistCandidates
  simp only
  refine ((S.perm _).map _).nodup_iff.mpr ?_
  exact ((List.filter_sublist.trans List.filter_sublist).map _).nodup hn

/-! ### every operation preserves the invariant -/

/-- the four components the invariant reads -/
def State.core (s : State) : List FTxn × Nat × (Nat → Nat) × Nat := (s.out, s.now, s.locked, s.cfg.reservation)

theorem inv_of_core {s s' : State} (h : Inv s) (hc : s'.core = s.core) : Inv s' := by
  unfold Inv
  simp only [State.core, Prod.mk.injEq] at hc
  rw [hc.1, hc.2.1, hc.2.2.1, hc.2.2.2]; exact h

theorem inv_reserve_one {s : State} (h : Inv s) (t : FTxn)
    (hunl : ∀ u ∈ t.ins, s.isLocked u.id = false) (hexp : t.expiry = s.now + s.cfg.reservation) :
    Inv (s.reserve [t] (t.ins.map (·.id))) := by
  refine inv_reserve h _ _ ?_ ?_ ?_ (List.pairwise_singleton _ _)
  · intro t' ht u hu
    rw [List.mem_singleton.mp ht] at hu
    exact List.mem_map_of_mem hu
  · intro id hid
    obtain ⟨u, hu, rfl⟩ := List.mem_map.mp hid
    exact hunl u hu
  · intro t' ht
    rw [List.mem_singleton.mp ht]
    exact hexp

theorem fund_spec (S : Sorter) (s : State) (h : Nat) (v2 : Bool) (amount : Nat) (uc : Bool) (inputs : Nat)
    (pre : List (Nat × Bool)) :
    (amount = 0 ∧ s.fund S h v2 amount uc inputs pre = (s, .ok [] 0 0)) ∨
    s.fund S h v2 amount uc inputs pre = (s, .err) ∨
    ∃ sel, s.selectUTXOs S amount inputs uc v2 = some sel ∧
      s.fund S h v2 amount uc inputs pre =
        (s.reserve
            [⟨h, v2, sel, if sumV sel > amount then pre ++ [(sumV sel - amount, true)] else pre, 0,
              s.now + s.cfg.reservation, 0⟩]
            (sel.map (·.id)),
          .ok sel (sumV sel) (sumV sel - amount)) := by
  unfold State.fund
  by_cases h0 : amount = 0
  · rw [if_pos h0]; exact .inl ⟨h0, rfl⟩
  rw [if_neg h0]
  cases s.selectUTXOs S amount inputs uc v2 with
  | none => exact .inr (.inl rfl)
  | some sel => exact .inr (.inr ⟨sel, rfl, rfl⟩)

theorem inv_fund {S : Sorter} {s : State} (h : Inv s) {hd : Nat} {v2 : Bool} {amount : Nat} {uc : Bool}
    {inputs : Nat} {pre : List (Nat × Bool)} : Inv (s.fund S hd v2 amount uc inputs pre).1 := by
  rcases fund_spec S s hd v2 amount uc inputs pre with ⟨_, e⟩ | e | ⟨sel, hsel, e⟩
  · rw [e]; exact h
  · rw [e]; exact h
  · rw [e]
    refine inv_reserve_one h _ ?_ ?_
    · exact select_unlocked hsel
    · rfl

theorem redistribute_spec (S : Sorter) (s : State) (h0 outputs amount fpb : Nat) :
    s.redistribute S h0 outputs amount fpb = (s, .err) ∨
    s.redistribute S h0 outputs amount fpb = (s, .none) ∨
    ∃ txns, txns.flatMap (·.ins) <+: (s.redistCandidates S outputs amount).2 ∧
      (∀ t ∈ txns, sumV t.ins = amount * t.nout + t.change + t.fee) ∧
      s.redistribute S h0 outputs amount fpb =
        (s.reserve (zipHandles (RTxn.toF s.now s.cfg amount) h0 txns)
            (txns.flatMap fun t => t.ins.map (·.id)),
          .ok txns) := by
  unfold State.redistribute
  simp only
  by_cases ha : amount = 0
  · rw [if_pos ha]; exact .inl rfl
  rw [if_neg ha]
  by_cases hc : (s.redistCandidates S outputs amount).1 = 0
  · rw [if_pos hc]; exact .inr (.inl rfl)
  rw [if_neg hc]
  cases hloop : redistLoop s.cfg amount fpb (s.redistCandidates S outputs amount).1
      (s.redistCandidates S outputs amount).1 (s.redistCandidates S outputs amount).2 [] with
  | none => exact .inl rfl
  | some txns =>
    obtain ⟨rest, hres, hpre, hcons⟩ := redistLoop_spec hloop
    rw [List.nil_append] at hres
    subst hres
    exact .inr (.inr ⟨_, hpre, hcons, rfl⟩)

theorem inv_redistribute {S : Sorter} {s : State} (h : Inv s) (hn : (s.utxos.map (·.id)).Nodup)
    {h0 outputs amount fpb : Nat} : Inv (s.redistribute S h0 outputs amount fpb).1 := by
  rcases redistribute_spec S s h0 outputs amount fpb with e | e | ⟨txns, hpre, _, e⟩
  · rw [e]; exact h
  · rw [e]; exact h
  · rw [e]
    have hins := zipHandles_map (RTxn.toF s.now s.cfg amount) (·.ins) (·.ins) (fun _ _ => rfl) h0 txns
    refine inv_reserve h _ _ ?_ ?_ ?_ ?_
    · intro t ht u hu
      have : t.ins ∈ txns.map (·.ins) := hins ▸ List.mem_map_of_mem ht
      obtain ⟨r, hr, hri⟩ := List.mem_map.mp this
      exact List.mem_flatMap.mpr ⟨r, hr, List.mem_map.mpr ⟨u, hri ▸ hu, rfl⟩⟩
    · intro id hid
      simp only [List.mem_flatMap, List.mem_map] at hid
      obtain ⟨r, hr, u, hu, rfl⟩ := hid
      exact (mem_redistCandidates (hpre.subset (List.mem_flatMap.mpr ⟨r, hr, hu⟩))).2.1
    · intro t ht
      have := List.mem_map_of_mem (f := (·.expiry)) ht
      rw [zipHandles_map _ _ (fun _ => s.now + s.cfg.reservation) (fun _ _ => rfl)] at this
      obtain ⟨_, _, e⟩ := List.mem_map.mp this
      exact e.symm
    · -- the pieces of a duplicate-free list are pairwise disjoint
      have hp : (txns.map (·.ins)).Pairwise fun a b => ∀ u ∈ a, ∀ v ∈ b, u.id ≠ v.id :=
        List.pairwise_map.mpr (List.pairwise_flatMap.mp (List.pairwise_map.mp
          ((hpre.sublist.map _).nodup (redistCandidates_nodup S s outputs amount hn)))).2
      rw [← hins, List.pairwise_map] at hp
      exact hp

theorem splitScan_pick (P : Utxo → Prop) (m : Nat) (l : List Utxo) (init : Nat × Utxo)
    (h0 : P init.2) (hl : ∀ u ∈ l, P u) : P (splitScan m l init).2 := by
  unfold splitScan
  refine List.foldlRecOn (motive := fun acc : Nat × Utxo => P acc.2) l _ h0 fun acc h u hu => ?_
  split
  · exact h
  · simp only
    split
    · exact hl u hu
    · exact h

/-- `addPool` touches only the two pool fields (so `core` is unchanged) -/
theorem addPool_eq (s : State) (p : PTxn) :
    s.addPool p = { s with poolV1 := (s.addPool p).poolV1, poolV2 := (s.addPool p).poolV2 } := by
  unfold State.addPool; split <;> rfl

/-- value 0: no output qualified and the initial pick stands -/
theorem splitPick_unlocked (s : State) (m : Nat) :
    (s.splitPick m).2.value = 0 ∨ s.isLocked (s.splitPick m).2.id = false := by
  unfold State.splitPick
  apply splitScan_pick (fun u => u.value = 0 ∨ s.isLocked u.id = false)
  · apply splitScan_pick (fun u => u.value = 0 ∨ s.isLocked u.id = false)
    · exact .inl rfl
    · intro u hu
      simp only [List.mem_filter, Bool.and_eq_true, Bool.not_eq_true', Bool.or_eq_false_iff] at hu
      exact .inr hu.2.1.1
  · intro u hu
    obtain ⟨o, ho, rfl⟩ := List.mem_map.mp hu
    simp only [List.mem_filter, Bool.and_eq_true, Bool.not_eq_true'] at ho
    exact .inr ho.2.2

theorem inv_splitCommit {s : State} (h : Inv s) (t : FTxn)
    (hunl : ∀ u ∈ t.ins, s.isLocked u.id = false) (hexp : t.expiry = s.now + s.cfg.reservation) :
    Inv (s.splitCommit t) := by
  unfold State.splitCommit
  simp only
  rw [addPool_eq]
  refine inv_reserve_one ?_ t hunl hexp
  exact inv_of_core h rfl

theorem split_spec (s : State) (h n m fee : Nat) :
    s.split h n m fee = (s, .err) ∨ s.split h n m fee = (s, .none) ∨
    ∃ k per, 0 < k ∧ fee * 2000 < (s.splitPick m).2.value ∧
      per = ((s.splitPick m).2.value - fee * 2000) / k ∧ m ≤ per ∧
      s.split h n m fee =
        (s.splitCommit ⟨h, true, [(s.splitPick m).2],
            List.replicate (k - 1) (per, true) ++
              [(per + ((s.splitPick m).2.value - fee * 2000 - per * k), true)],
            fee * 2000, s.now + s.cfg.reservation, s.nextId⟩,
         .ok (s.splitPick m).2 k per (per + ((s.splitPick m).2.value - fee * 2000 - per * k)) (fee * 2000)) := by
  -- `split` on the unfolded body is slow; the guards are taken one by one instead
  generalize hr : s.split h n m fee = r
  unfold State.split at hr
  rcases ite_eq_cases hr with ⟨_, hr⟩ | ⟨_, hr⟩
  · exact .inl hr.symm
  rcases ite_eq_cases hr with ⟨_, hr⟩ | ⟨_, hr⟩
  · exact .inl hr.symm
  rcases ite_eq_cases hr with ⟨_, hr⟩ | ⟨_, hr⟩
  · exact .inl hr.symm
  rcases ite_eq_cases hr with ⟨_, hr⟩ | ⟨_, hr⟩
  · exact .inl hr.symm
  simp only at hr
  rcases ite_eq_cases hr with ⟨_, hr⟩ | ⟨h5, hr⟩
  · exact .inl hr.symm
  rcases ite_eq_cases hr with ⟨_, hr⟩ | ⟨h6, hr⟩
  · exact .inr (.inl hr.symm)
  rcases ite_eq_cases hr with ⟨_, hr⟩ | ⟨h7, hr⟩
  · exact .inl hr.symm
  rcases ite_eq_cases hr with ⟨_, hr⟩ | ⟨_, hr⟩
  · exact .inr (.inr ⟨_, _, by omega, by omega, rfl, by omega, hr.symm⟩)
  · exact .inl hr.symm

theorem inv_split {s : State} (h : Inv s) {hd n m fee : Nat} : Inv (s.split hd n m fee).1 := by
  rcases split_spec s hd n m fee with e | e | ⟨k, per, _, hval, _, _, e⟩
  · rw [e]; exact h
  · rw [e]; exact h
  · rw [e]
    refine inv_splitCommit h _ ?_ rfl
    intro u hu
    rw [List.mem_singleton.mp hu]
    exact (splitPick_unlocked s m).resolve_left (by omega)

theorem addSet_induction (P : State → Prop)
    (hP : ∀ (st : State) p, P st → P { st with poolV2 := st.poolV2 ++ [p] })
    (s : State) (set : List PTxn) (h : P s) : P (s.addSet set) := by
  unfold State.addSet
  split
  · refine List.foldlRecOn set _ h fun st h p _ => ?_
    split
    · exact h
    · split
      · exact hP _ _ h
      · exact h
  · exact h

theorem foldl_addSet_induction (P : State → Prop)
    (hP : ∀ (st : State) p, P st → P { st with poolV2 := st.poolV2 ++ [p] })
    (sets : List (List PTxn)) (s : State) (h : P s) : P (sets.foldl State.addSet s) :=
  List.foldlRecOn sets _ h fun st h set _ => addSet_induction P hP st set h

theorem foldl_addSet_core (sets : List (List PTxn)) (s : State) : (sets.foldl State.addSet s).core = s.core :=
  foldl_addSet_induction (fun st => st.core = s.core) (fun _ _ h => h) sets s rfl

theorem foldl_addSet_poolV2_mono (sets : List (List PTxn)) (s : State) (p : PTxn) (h : p ∈ s.poolV2) :
    p ∈ (sets.foldl State.addSet s).poolV2 :=
  foldl_addSet_induction (fun st => p ∈ st.poolV2) (fun _ _ h => List.mem_append_left _ h) sets s h

/-- a set of one transaction that passes the pool's test alone on the tip and on the current pool
ends up in the pool -/
theorem addSet_single (s : State) (p : PTxn)
    (h1 : ({ s with poolV1 := [], poolV2 := [] } : State).accepts true (p.ins.map (·.id)) = true)
    (h2 : s.accepts true (p.ins.map (·.id)) = true) : p ∈ (s.addSet [p]).poolV2 := by
  unfold State.addSet
  simp only [State.validSet, h1, Bool.and_true, ↓reduceIte, List.foldl_cons, List.foldl_nil]
  by_cases hc : s.poolV2.contains p = true
  · rw [if_pos hc]; exact List.elem_iff.mp hc
  · rw [if_neg hc, if_pos h2]; exact List.mem_append_right _ (List.mem_singleton_self p)

theorem inv_restart {s : State} {f : Bool} : Inv (s.restart f) := by
  unfold State.restart
  refine inv_of_core ?_ (foldl_addSet_core _ _)
  cases f <;> exact inv'_restart _ _

theorem bcast_core {s : State} {hd : Nat} {w : Bool} : (s.bcast hd w).1.core = s.core := by
  unfold State.bcast
  cases s.reg.find? (·.h == hd) with
  | none => rfl
  | some t =>
    simp only
    by_cases h1 : (t.base != 0 && (s.poolV1 ++ s.poolV2).contains (t.toP t.base)) = true
    · rw [if_pos h1]; cases w <;> rfl
    rw [if_neg h1]
    by_cases h2 : s.accepts t.v2 (t.ins.map (·.id)) = true
    · rw [if_pos h2, addPool_eq]; cases w <;> rfl
    · rw [if_neg h2]

theorem xspend_core {s : State} {v2 : Bool} {id back rest : Nat} : (s.xspend v2 id back rest).1.core = s.core := by
  unfold State.xspend
  split
  · simp only
    rw [addPool_eq]
    rfl
  · rfl

/-- `hn` is for Redistribute: its transactions are disjoint because the store lists each output once -/
theorem inv_step (S : Sorter) (s : State) (h : Inv s) (hn : (s.utxos.map (·.id)).Nodup) (o : Op) :
    Inv (s.step S o) := by
  match o with
  | .fund .. => exact inv_fund h
  | .redistribute .. => exact inv_redistribute h hn
  | .split .. => exact inv_split h
  | .release ids => exact inv'_release h ids
  | .tick d => exact inv'_tick h d
  | .restart _ => exact inv_restart
  | .bcast .. => exact inv_of_core h bcast_core
  | .xspend .. => exact inv_of_core h xspend_core
  | .mine .. | .env .. | .lag _ | .sync | .stale => exact inv_of_core h rfl

theorem inv_init (cfg : Cfg) : Inv (State.init cfg) := inv'_restart _ _

/-! ### the three views of what is spendable -/

theorem contains_congr {a b : List Nat} {x : Nat} (h : x ∈ a ↔ x ∈ b) : a.contains x = b.contains x := by
  rw [Bool.eq_iff_iff]; simp [h]

theorem spendable_eq_candidates (s : State) (v2 : Bool) : s.spendable = s.candidates v2 := by
  unfold State.spendable State.candidates State.scanSelect
  apply List.filter_congr
  intro u _
  rw [contains_congr scan_spent_false, ← inPool_eq]
  cases s.isLocked u.id <;> cases s.inPool.contains u.id <;> simp

/-- a pooled input that names an output of the store carries the wallet's unlock hash / address
(the pool only holds valid transactions; `Balance` skips inputs of other addresses) -/
def PoolOwn (s : State) : Prop :=
  ∀ t ∈ s.poolV1 ++ s.poolV2, ∀ i ∈ t.ins, (∃ u ∈ s.utxos, u.id = i.id) → i.own = true

theorem balance_spendable (s : State) (hown : PoolOwn s) : s.balance.spendable = sumV s.spendable := by
  unfold State.balance State.spendable State.scanPool
  simp only
  rw [List.filter_filter]
  congr 1
  apply List.filter_congr
  intro u hu
  have hiff : u.id ∈ (scanTxns true true (fun _ => true) (s.poolV1 ++ s.poolV2)).spent ↔ u.id ∈ s.inPool := by
    rw [scan_spent, inPool_eq]
    unfold inputIds
    simp only [Bool.true_and, Bool.not_eq_false', List.mem_flatMap, List.mem_map]
    constructor
    · rintro ⟨t, ht, i, hi, _, hid⟩; exact ⟨t, ht, i, hi, hid⟩
    · rintro ⟨t, ht, i, hi, hid⟩; exact ⟨t, ht, i, hi, hown t ht i hi ⟨u, hu, hid.symm⟩, hid⟩
  rw [contains_congr hiff]
  cases s.isLocked u.id <;> cases s.inPool.contains u.id <;> simp <;> omega

theorem select_complete (S : Sorter) (s : State) (amount inputs : Nat) (v2 : Bool) (h0 : amount ≠ 0) :
    (s.selectUTXOs S amount inputs false v2).isSome = true ↔ amount ≤ sumV (s.candidates v2) := by
  unfold State.selectUTXOs
  simp only [h0, ↓reduceIte, Bool.and_false, Bool.false_eq_true]
  have hlt := takeFund_lt amount 0 (S.sort (s.candidates v2))
  rw [sumV_perm (S.perm _)] at hlt
  split
  · simp only [Option.isSome_none, Bool.false_eq_true, false_iff]; omega
  · simp only [Option.isSome_some, true_iff]; omega

end Verif.Funding
