/-
C04, the element side of the update stream: folding the per-block element diffs of any path
`UpdatesSince` returns over a subscriber's set-level ledger yields the ledger of the index the
path ends at.

`Verif/Lemmas/Updates.lean` shows that a poll returns a contiguous path (`walk`): reverts
walking parent by parent, then applies along the best chain.  `Verif/Lemmas/Elements.lean`
shows that `revertDiffs ∘ applyDiffs` is the identity on the keyed buckets for a well-formed
diff list (and on the expiration lists under `ExpStable`).  Here every block id gets a diff list
`D b` (consensus is a parameter), the ledger of a chain is the fold of `applyDiffs` from genesis,
and the two results are combined by induction over the path.
-/
import Verif.Lemmas.Updates
import Verif.Lemmas.Elements

namespace Verif.Chain
open Verif.Elements (Store Diff applyDiffs revertDiffs WF ExpStable)

/-- the set-level ledger of a chain (tip first): the diffs of its blocks applied from genesis -/
def ledgerOfChain (D : Nat → List Diff) : List Nat → Store
  | [] => Store.empty
  | b :: t => applyDiffs (ledgerOfChain D t) (D b)

/-- what a subscriber does with a list of updates: a `RevertUpdate` is folded with the reverted
block's diffs in reverse, an `ApplyUpdate` with the block's diffs (`chainx.Ledger.Revert/Apply`,
`wallet/update.go`) -/
def foldUpd (D : Nat → List Diff) : Store → List Upd → Store
  | s, [] => s
  | s, .revert b :: us => foldUpd D (revertDiffs s (D b).reverse) us
  | s, .apply b :: us => foldUpd D (applyDiffs s (D b)) us

theorem foldUpd_append (D : Nat → List Diff) (s : Store) (us vs : List Upd) :
    foldUpd D s (us ++ vs) = foldUpd D (foldUpd D s us) vs := by
  induction us generalizing s with
  | nil => rfl
  | cons u us ih => cases u <;> simp [foldUpd, ih]

/-- `l` is the chain of the subscriber index `idx` ("nothing" has the empty chain) -/
def ChainTo (U : Nat → Blk) : Option Nat → List Nat → Prop
  | none, l => l = []
  | some i, l => Chain U l ∧ l.head? = some i

theorem ChainTo.unique {U : Nat → Blk} {idx : Option Nat} {l₁ l₂ : List Nat}
    (h₁ : ChainTo U idx l₁) (h₂ : ChainTo U idx l₂) : l₁ = l₂ := by
  cases idx with
  | none => simp only [ChainTo] at h₁ h₂; rw [h₁, h₂]
  | some i =>
    obtain ⟨c₁, e₁⟩ := h₁
    obtain ⟨c₂, e₂⟩ := h₂
    exact Chain.unique c₁ c₂ (by rw [e₁, e₂])

/-- agreement on the keyed buckets (unspent siacoin / siafund elements, contracts) -/
def KeyedEq (a b : Store) : Prop := a.sc = b.sc ∧ a.sf = b.sf ∧ a.fc = b.fc

theorem KeyedEq.refl (a : Store) : KeyedEq a a := ⟨rfl, rfl, rfl⟩

/-- every block's diff list is well formed relative to the ledger of the chain below it (what
consensus guarantees about a valid block) -/
def WFD (U : Nat → Blk) (D : Nat → List Diff) : Prop :=
  ∀ b t, Chain U (b :: t) → WF (ledgerOfChain D t) (D b)

/-- block `b` gives the expiration lists back in order when applied to and reverted from the
ledger of the chain below it (C02's `ExpStable`) -/
def StableD (U : Nat → Blk) (D : Nat → List Diff) (b : Nat) : Prop :=
  ∀ t, Chain U (b :: t) → ExpStable (ledgerOfChain D t) (D b)

open Verif.Elements in
theorem KeyedEq.apply {a b : Store} (h : KeyedEq a b) (ds : List Diff) :
    KeyedEq (applyDiffs a ds) (applyDiffs b ds) := by
  obtain ⟨h1, h2, h3⟩ := h
  rw [applyDiffs_eq a, applyDiffs_eq b]
  exact ⟨by rw [h1], by rw [h2], by rw [h3]⟩

open Verif.Elements in
theorem KeyedEq.revert {s s0 : Store} {ds : List Diff} (h : KeyedEq s (applyDiffs s0 ds)) (hw : WF s0 ds) :
    KeyedEq (revertDiffs s ds.reverse) s0 := by
  obtain ⟨h1, h2, h3⟩ := h
  have hk := revertDiffs_applyDiffs_eq s0 ds hw
  rw [revertDiffs_eq] at hk ⊢
  injection hk with hsc hsf hfc
  exact ⟨by rw [h1]; exact hsc, by rw [h2]; exact hsf, by rw [h3]; exact hfc⟩

theorem stepUpd_chain {U : Nat → Blk} {idx idx' : Option Nat} {u : Upd} {l : List Nat}
    (hl : ChainTo U idx l) (h : stepUpd U idx u = some idx') :
    (∃ b, u = .apply b ∧ ChainTo U idx' (b :: l)) ∨
    (∃ b t, u = .revert b ∧ l = b :: t ∧ Chain U (b :: t) ∧ ChainTo U idx' t) := by
  cases idx with
  | none =>
    cases u with
    | revert b => cases h
    | apply b =>
      simp only [stepUpd, Option.ite_none_right_eq_some, Option.some.injEq] at h
      obtain ⟨rfl, rfl⟩ := h
      exact Or.inl ⟨0, rfl, hl ▸ ⟨Chain.gen, rfl⟩⟩
  | some i =>
    obtain ⟨hc, hh⟩ := hl
    cases u with
    | revert b =>
      simp only [stepUpd, Option.ite_none_right_eq_some, Option.some.injEq] at h
      obtain ⟨⟨rfl, hb⟩, rfl⟩ := h
      cases hc with
      | gen => exact absurd (Option.some.inj hh).symm hb
      | @cons a p t ha hp ht =>
        cases Option.some.inj hh
        exact Or.inr ⟨b, p :: t, rfl, rfl, .cons ha hp ht, ht, congrArg some hp.symm⟩
    | apply b =>
      simp only [stepUpd, Option.ite_none_right_eq_some, Option.some.injEq] at h
      obtain ⟨⟨hp, hb⟩, rfl⟩ := h
      cases l with
      | nil => cases hh
      | cons x t =>
        cases Option.some.inj hh
        exact Or.inl ⟨b, rfl, .cons hb hp hc, rfl⟩

theorem foldUpd_inv {U : Nat → Blk} {D : Nat → List Diff} (I : Store → List Nat → Prop) (us : List Upd)
    (happ : ∀ s l b, I s l → I (applyDiffs s (D b)) (b :: l))
    (hrev : ∀ s b t, Upd.revert b ∈ us → Chain U (b :: t) → I s (b :: t) → I (revertDiffs s (D b).reverse) t) :
    ∀ (idx idx' : Option Nat) (l : List Nat) (s : Store), ChainTo U idx l → I s l →
      walk U idx us = some idx' → ∃ l', ChainTo U idx' l' ∧ I (foldUpd D s us) l' := by
  induction us with
  | nil =>
    intro idx idx' l s hl hs hw
    cases hw
    exact ⟨l, hl, hs⟩
  | cons u us ih =>
    intro idx idx' l s hl hs hw
    have ih := ih fun s b t hb => hrev s b t (List.mem_cons_of_mem _ hb)
    rw [walk, Option.bind_eq_some_iff] at hw
    obtain ⟨idx1, hstep, hw⟩ := hw
    rcases stepUpd_chain hl hstep with ⟨b, rfl, hl'⟩ | ⟨b, t, rfl, rfl, hc, hl'⟩
    · exact ih idx1 idx' _ _ hl' (happ s l b hs) hw
    · exact ih idx1 idx' _ _ hl' (hrev s b t (List.mem_cons_self ..) hc hs) hw

theorem foldUpd_keyed {U : Nat → Blk} {D : Nat → List Diff} (hD : WFD U D) (us : List Upd)
    (idx idx' : Option Nat) (l : List Nat) (s : Store) (hl : ChainTo U idx l) (hs : KeyedEq s (ledgerOfChain D l))
    (hw : walk U idx us = some idx') :
    ∃ l', ChainTo U idx' l' ∧ KeyedEq (foldUpd D s us) (ledgerOfChain D l') :=
  foldUpd_inv (fun s l => KeyedEq s (ledgerOfChain D l)) us (fun _ _ b h => h.apply (D b))
    (fun _ b t _ hc h => h.revert (hD b t hc)) idx idx' l s hl hs hw

theorem foldUpd_exact {U : Nat → Blk} {D : Nat → List Diff} (hD : WFD U D) (us : List Upd)
    (idx idx' : Option Nat) (l : List Nat) (hl : ChainTo U idx l)
    (hst : ∀ b, Upd.revert b ∈ us → StableD U D b) (hw : walk U idx us = some idx') :
    ∃ l', ChainTo U idx' l' ∧ foldUpd D (ledgerOfChain D l) us = ledgerOfChain D l' :=
  foldUpd_inv (fun s l => s = ledgerOfChain D l) us (fun _ _ _ h => h ▸ rfl)
    (fun _ b t hb hc h => h ▸ Verif.Elements.revertDiffs_applyDiffs _ _ (hD b t hc) (hst b hb t hc))
    idx idx' l _ hl rfl hw

end Verif.Chain
