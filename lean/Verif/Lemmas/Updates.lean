/-
Helper lemmas for `UpdatesSince` (C04): one loop iteration always succeeds for a subscriber
index the manager applied earlier, is contiguous, and strictly decreases a distance to the tip.
-/
import Verif.Lemmas.Chain

namespace Verif.Chain

/-- a subscriber index: nothing yet, or a block this manager applied at some point -/
def Sub (m : Mgr) : Option Nat → Prop
  | none => True
  | some i => m.recs i = some ⟨true, true⟩

/-- what an update does to a subscriber's index; `none` = the update does not attach -/
def stepUpd (U : Nat → Blk) : Option Nat → Upd → Option (Option Nat)
  | some i, .revert b => if b = i ∧ i ≠ 0 then some (some (par U i)) else none
  | none, .revert _ => none
  | none, .apply b => if b = 0 then some (some 0) else none
  | some i, .apply b => if par U b = i ∧ b ≠ 0 then some (some b) else none

def walk (U : Nat → Blk) : Option Nat → List Upd → Option (Option Nat)
  | idx, [] => some idx
  | idx, u :: us => (stepUpd U idx u).bind fun idx' => walk U idx' us

theorem walk_append (U : Nat → Blk) (idx : Option Nat) (us vs : List Upd) :
    walk U idx (us ++ vs) = (walk U idx us).bind fun idx' => walk U idx' vs := by
  induction us generalizing idx with
  | nil => simp [walk]
  | cons u us ih =>
    simp only [List.cons_append, walk]
    cases stepUpd U idx u with
    | none => simp
    | some i => simp [ih]

/-- distance of a subscriber index to the tip: blocks to revert plus blocks to apply (an upper
bound that every loop iteration decreases) -/
def mu (U : Nat → Blk) (m : Mgr) : Option Nat → Nat
  | none => m.tipHeight + 1
  | some i => if m.bestAt (U i).height = some i then m.tipHeight - (U i).height
              else m.tipHeight + (U i).height + 1

theorem Inv.tipHeight_eq {U m} (h : Inv U m) : m.tipHeight = (U m.tip).height := h.toWInv.tipHeight_eq

theorem Inv.bestAt_spec {U m} (h : Inv U m) {k : Nat} (hk : k ≤ m.tipHeight) :
    ∃ i, m.bestAt k = some i ∧ i = anc U (m.tipHeight - k) m.tip ∧ (U i).height = k ∧
      m.recs i = some ⟨true, true⟩ := by
  have hlt : k < m.best.length := by
    have := h.length
    unfold Mgr.tipHeight at hk
    omega
  have hj : m.best.length - 1 - k < m.best.length := by omega
  have hb := bestAt_of_lt hlt
  refine ⟨_, hb, ?_, (h.toWInv.bestAt_height hb).1, h.bestsupp _ (List.getElem_mem hj)⟩
  rw [h.best_getElem _ hj]
  rfl

theorem Inv.bestAt_tip {U m} (h : Inv U m) : m.bestAt m.tipHeight = some m.tip := h.toWInv.bestAt_tip

/-- along the best chain the height index and the parent links agree -/
theorem Inv.bestAt_anc {U m} (h : Inv U m) {ha a k : Nat} (hb : m.bestAt ha = some a) (hk : k ≤ ha) :
    m.bestAt (ha - k) = some (anc U k a) := h.toWInv.bestAt_anc hb hk

/-- **one loop iteration of `UpdatesSince`** for a subscriber that is not at the tip -/
theorem nextUpd_spec {U m} (h : Inv U m) {idx : Option Nat} (hs : Sub m idx) (hne : idx ≠ some m.tip) :
    ∃ u i', nextUpd U m idx = .ok (u, i') ∧ Sub m (some i') ∧
      stepUpd U idx u = some (some i') ∧ mu U m (some i') < mu U m idx ∧
      (onBestChain U m idx = true → onBestChain U m (some i') = true ∧ ∃ b, u = .apply b) := by
  cases idx with
  | none =>
    have h1 := h.toWInv.bestAt_zero
    have h4 : m.recs 0 = some ⟨true, true⟩ := h.s.gen.1
    refine ⟨.apply 0, 0, ?_, h4, by simp [stepUpd], ?_, fun _ => ⟨?_, 0, rfl⟩⟩
    · simp [nextUpd, onBestChain, h1, Mgr.block, h4]
    · simp [mu, h.s.h0, h1]
    · simp [onBestChain, h.s.h0, h1]
  | some i =>
    have hrec : m.recs i = some ⟨true, true⟩ := hs
    have hst : m.states i = true := (h.s.recstate i _ hrec).2
    by_cases hon : m.bestAt (U i).height = some i
    · -- on the best chain, below the tip: the next best block is applied
      have hle := bestAt_le hon
      have hlt : (U i).height < m.tipHeight := by
        by_cases e : (U i).height = m.tipHeight
        · rw [e, h.bestAt_tip] at hon
          exact absurd (by rw [Option.some.inj hon]) hne
        · omega
      obtain ⟨n, n1, _, n3, n4⟩ := h.bestAt_spec (k := (U i).height + 1) (by omega)
      obtain ⟨hpar, hn0⟩ := h.toWInv.bestAt_succ_parent hon n1
      have hnst : m.states n = true := (h.s.recstate n _ n4).2
      have hps : m.states (U n).parent = true := by
        have := (h.s.closed n hnst hn0).1; simpa [par] using this
      refine ⟨.apply n, n, ?_, n4, by simp [stepUpd, hpar, hn0], ?_, fun _ => ⟨?_, n, rfl⟩⟩
      · simp [nextUpd, onBestChain, hon, n1, Mgr.block, n4, hps]
      · simp [mu, hon, n3, n1]; omega
      · simp [onBestChain, n3, n1]
    · -- off the best chain: the block is reverted
      have hi0 : i ≠ 0 := by
        intro e; subst e
        rw [h.s.h0] at hon
        exact hon h.toWInv.bestAt_zero
      obtain ⟨c1, c2⟩ := h.s.closed i hst hi0
      have hps : m.states (U i).parent = true := by simpa [par] using c1
      refine ⟨.revert i, par U i, ?_, h.s.suppclosed i hi0 hrec, by simp [stepUpd, hi0], ?_, ?_⟩
      · simp [nextUpd, onBestChain, hon, Mgr.block, hrec, hps, par]
      · simp only [mu, hon, if_false]
        split <;> omega
      · intro hb; simp [onBestChain, hon] at hb

theorem updatesSince_stop {U m} {fuel : Nat} {idx : Option Nat} {max : Nat} {acc : List Upd}
    (h : idx = some m.tip ∨ acc.length ≥ max) : updatesSince U m fuel idx max acc = .ok acc := by
  cases fuel with
  | zero => rfl
  | succ fuel => rw [updatesSince, if_pos h]

theorem updatesSince_step {U m} {fuel : Nat} {idx : Option Nat} {max : Nat} {acc : List Upd} {u : Upd} {i' : Nat}
    (hne : idx ≠ some m.tip) (hlt : acc.length < max) (hn : nextUpd U m idx = .ok (u, i')) :
    updatesSince U m (fuel + 1) idx max acc = updatesSince U m fuel (some i') max (acc ++ [u]) := by
  rw [updatesSince, if_neg fun h => h.elim hne (Nat.not_le_of_lt hlt), hn]

/-- **the loop**: with enough fuel `UpdatesSince` never fails for a subscriber index, returns a
contiguous path from it, at most `max` updates, ends at the tip or when `max` is reached, and
each update brings the subscriber strictly closer -/
theorem updatesSince_spec {U m} (h : Inv U m) (max : Nat) :
    ∀ (fuel : Nat) (idx : Option Nat) (acc : List Upd), Sub m idx → mu U m idx ≤ fuel →
      ∃ us idx', updatesSince U m fuel idx max acc = .ok (acc ++ us) ∧
        walk U idx us = some idx' ∧ Sub m idx' ∧
        mu U m idx' + us.length ≤ mu U m idx ∧
        (idx' = some m.tip ∨ (acc ++ us).length ≥ max) ∧
        (acc.length < max → idx ≠ some m.tip → us ≠ []) ∧
        (acc.length ≥ max → us = []) ∧
        us.length ≤ max - acc.length := by
  intro fuel
  induction fuel with
  | zero =>
    intro idx acc hs hf
    -- mu = 0 means the subscriber is at the tip
    have hat : idx = some m.tip := by
      cases idx with
      | none => simp [mu] at hf
      | some i =>
        simp only [mu] at hf
        split at hf
        · next hon =>
          have hle := bestAt_le hon
          have e : (U i).height = m.tipHeight := by omega
          rw [e, h.bestAt_tip] at hon
          rw [Option.some.inj hon]
        · omega
    refine ⟨[], idx, by simp [updatesSince], rfl, hs, by simp, Or.inl hat, ?_, fun _ => rfl, by simp⟩
    · intro _ hne; exact absurd hat hne
  | succ fuel ih =>
    intro idx acc hs hf
    by_cases hstop : idx = some m.tip ∨ acc.length ≥ max
    · rw [updatesSince_stop hstop]
      refine ⟨[], idx, by simp, rfl, hs, by simp, ?_, ?_, fun _ => rfl, by simp⟩
      · rcases hstop with e | e
        · exact Or.inl e
        · right; simpa using e
      · intro hlt hne; rcases hstop with e | e
        · exact absurd e hne
        · omega
    · have hne : idx ≠ some m.tip := fun e => hstop (Or.inl e)
      have hlt : acc.length < max := Nat.lt_of_not_le fun x => hstop (Or.inr x)
      obtain ⟨u, i', n1, n2, n3, n4, _⟩ := nextUpd_spec h hs hne
      rw [updatesSince_step hne hlt n1]
      obtain ⟨us, idx', r1, r2, r3, r4, r5, _, _, r8⟩ := ih (some i') (acc ++ [u]) n2 (by omega)
      refine ⟨u :: us, idx', by simpa using r1, by simp [walk, n3, r2], r3, ?_, ?_, fun _ _ => by simp, fun x => by omega, ?_⟩
      · simp only [List.length_cons]; omega
      · simpa using r5
      · simp only [List.length_append, List.length_cons, List.length_nil] at r8 ⊢
        omega

end Verif.Chain
