/-
C20, regenerated tie: what the kernel checks about the data that `vh srcfacts` extracts from
`/repo/wallet/seed.go` into `Verif/Extracted/Wordlist.lean` on every run.

* the BIP-39 table has 2048 entries, is strictly sorted (hence without duplicates: `wordMap` is a
  bijection onto `0..2047`) and every word is a non-empty string of `a`…`z` (hence contains no
  white space and survives `strings.Fields`; an upper-case variant is not a word);
* the integer literals of `bip39checksum`, `encodeBIP39Phrase`, `decodeBIP39Phrase` and
  `KeyFromSeed` are, in source order, the constants the model uses; the byte-order selectors are
  the ones the model assumes (`BigEndian` for the entropy, `LittleEndian` for the key index).

If `seed.go` changes so that one of these no longer holds, this file stops compiling and the
check reports the broken obligation.
-/
import Verif.Lemmas.Seed
import Verif.Extracted.Wordlist

namespace Verif.Seed

theorem ltW_irrefl (a : List Nat) : ltW a a = false := by
  induction a with
  | nil => rfl
  | cons x xs ih => simp [ltW, ih]

theorem ltW_trans : ∀ a b c : List Nat, ltW a b = true → ltW b c = true → ltW a c = true
  | [], [], _, h, _ => by simp [ltW] at h
  | [], _ :: _, [], _, h => by simp [ltW] at h
  | [], _ :: _, _ :: _, _, _ => by simp [ltW]
  | _ :: _, [], _, h, _ => by simp [ltW] at h
  | _ :: _, _ :: _, [], _, h => by simp [ltW] at h
  | x :: xs, y :: ys, z :: zs, h1, h2 => by
    simp only [ltW] at h1 h2 ⊢
    by_cases hxy : x < y
    · by_cases hyz : y < z
      · simp [show x < z by omega]
      · by_cases hzy : z < y
        · simp [hyz, hzy] at h2
        · have : y = z := by omega
          subst this; simp [hxy]
    · by_cases hyx : y < x
      · simp [hxy, hyx] at h1
      · have : x = y := by omega
        subst this
        simp only [hxy, if_false] at h1
        by_cases hxz : x < z
        · simp [hxz]
        · by_cases hzx : z < x
          · simp [hxz, hzx] at h2
          · simp only [hxz, hzx, if_false] at h2 ⊢
            exact ltW_trans xs ys zs h1 h2

theorem sortedW_head_lt (a : List Nat) (l : List (List Nat)) (h : sortedW (a :: l) = true) :
    ∀ b ∈ l, ltW a b = true := by
  induction l generalizing a with
  | nil => intro b hb; simp at hb
  | cons c l ih =>
    simp only [sortedW, Bool.and_eq_true] at h
    intro b hb
    rcases List.mem_cons.mp hb with rfl | hb
    · exact h.1
    · exact ltW_trans a c b h.1 (ih c h.2 b hb)

theorem sortedW_tail (a : List Nat) (l : List (List Nat)) (h : sortedW (a :: l) = true) :
    sortedW l = true := by
  cases l with
  | nil => rfl
  | cons c l => simp only [sortedW, Bool.and_eq_true] at h; exact h.2

theorem nodup_of_sortedW (l : List (List Nat)) (h : sortedW l = true) : l.Nodup := by
  induction l with
  | nil => exact List.nodup_nil
  | cons a l ih =>
    rw [List.nodup_cons]
    refine ⟨?_, ih (sortedW_tail a l h)⟩
    intro hm
    have := sortedW_head_lt a l h a hm
    rw [ltW_irrefl] at this
    cases this

theorem isSpace_lower (c : Nat) (h1 : 97 ≤ c) (h2 : c ≤ 122) : isSpace c = false := by
  simp only [isSpace, Bool.or_eq_false_iff, beq_eq_false_iff_ne, Bool.and_eq_false_iff,
    decide_eq_false_iff_not]
  omega

theorem tokOk_of_lowerW (w : List Nat) (h : lowerW w = true) : TokOk w := by
  simp only [lowerW, Bool.and_eq_true, Bool.not_eq_true', List.isEmpty_eq_false_iff,
    List.all_eq_true, decide_eq_true_eq] at h
  exact ⟨h.1, fun c hc => isSpace_lower c (h.2 c hc).1 (h.2 c hc).2⟩

theorem goodList_of_checks (wl : List (List Nat)) (h1 : wl.length = 2048) (h2 : sortedW wl = true)
    (h3 : wl.all lowerW = true) : GoodList wl :=
  ⟨h1, nodup_of_sortedW wl h2, fun w hw => tokOk_of_lowerW w (List.all_eq_true.mp h3 w hw)⟩

theorem not_mem_of_not_lower (wl : List (List Nat)) (h3 : wl.all lowerW = true) (t : List Nat)
    (c : Nat) (hc : c ∈ t) (hn : ¬ (97 ≤ c ∧ c ≤ 122)) : t ∉ wl := by
  intro hm
  have := List.all_eq_true.mp h3 t hm
  simp only [lowerW, Bool.and_eq_true, List.all_eq_true, decide_eq_true_eq] at this
  exact hn (this.2 c hc)

open Verif.Extracted.Seed in
theorem wordlist_length : wordlist.length = 2048 := by decide +kernel

open Verif.Extracted.Seed in
theorem wordlist_sorted : sortedW wordlist = true := by decide +kernel

open Verif.Extracted.Seed in
theorem wordlist_lower : wordlist.all lowerW = true := by decide +kernel

theorem wordlist_good : GoodList Verif.Extracted.Seed.wordlist :=
  goodList_of_checks _ wordlist_length wordlist_sorted wordlist_lower

theorem checksumLits_eq : Verif.Extracted.Seed.checksumLits = checksumLits := rfl
theorem encodeLits_eq : Verif.Extracted.Seed.encodeLits = encodeLits := rfl
theorem decodeLits_eq : Verif.Extracted.Seed.decodeLits = decodeLits := rfl
theorem keyFromSeedLits_eq : Verif.Extracted.Seed.keyFromSeedLits = keyFromSeedLits := rfl

/-- the entropy is read and written big-endian, the phrase is joined / split by the `strings`
functions the model mirrors, the key index is written little-endian in front of BLAKE2b -/
theorem encodeSelectors_eq : Verif.Extracted.Seed.encodeSelectors =
    ["binary.BigEndian.Uint64", "binary.BigEndian.Uint64", "strings.Join"] := rfl
theorem decodeSelectors_eq : Verif.Extracted.Seed.decodeSelectors =
    ["strings.Fields", "errors.New", "fmt.Errorf", "binary.BigEndian.PutUint64",
     "binary.BigEndian.PutUint64", "errors.New"] := rfl
theorem keyFromSeedSelectors_eq : Verif.Extracted.Seed.keyFromSeedSelectors =
    ["binary.LittleEndian.PutUint64", "blake2b.Sum256", "types.NewPrivateKeyFromSeed"] := rfl

end Verif.Seed
