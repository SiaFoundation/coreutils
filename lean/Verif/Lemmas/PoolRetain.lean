/-
Retention (C05): a self-contained set of pooled transactions is carried through every applied and
every reverted block and through the re-validation, unless a block confirms a member, spends an
input of a member, or reverts the creation of an input of a member.  Core only.
-/
import Verif.Lemmas.PoolRebase

namespace Verif.Pool

/-! ## rules and inputs -/

/-- the part of `txValid` that does not look at elements -/
def rulesOk (cfg : Cfg) (l : Ledger) (v2 : Bool) (t : Txn) : Bool :=
  t.ok && (v2 || t.era == eraOf cfg l.height) && heightOk cfg l v2

/-- the part that does: every prefix resolves and spends nothing twice -/
def seqInp (l : Ledger) (v2 : Bool) : MidState → List Txn → Bool
  | _, [] => true
  | ms, t :: ts => inputsOk l ms.created v2 ms.spent t.inputs && seqInp l v2 (applyTx ms t) ts

theorem txValid_split (cfg : Cfg) (l : Ledger) (ms : MidState) (v2 : Bool) (t : Txn) :
    txValid cfg l ms v2 t = (rulesOk cfg l v2 t && inputsOk l ms.created v2 ms.spent t.inputs) := rfl

theorem seqValid_split (cfg : Cfg) (l : Ledger) (v2 : Bool) : ∀ (ts : List Txn) (ms : MidState),
    seqValid cfg l v2 ms ts = (ts.all (rulesOk cfg l v2) && seqInp l v2 ms ts)
  | [], _ => rfl
  | t :: ts, ms => by
    rw [seqValid, seqInp, List.all_cons, txValid_split, seqValid_split cfg l v2 ts]
    cases rulesOk cfg l v2 t <;> cases inputsOk l ms.created v2 ms.spent t.inputs <;> simp

theorem seqInp_append (l : Ledger) (v2 : Bool) : ∀ (a b : List Txn) (ms : MidState),
    seqInp l v2 ms (a ++ b) = (seqInp l v2 ms a && seqInp l v2 (msOf ms a) b)
  | [], _, _ => by simp [seqInp, msOf]
  | t :: a, b, ms => by simp [seqInp, msOf, seqInp_append l v2 a b, Bool.and_assoc]

/-- a set of transactions that is valid on its own on the ledger: v1 part, then v2 part -/
def Robust (l : Ledger) (K1 K2 : List Txn) : Prop :=
  seqInp l false MidState.empty K1 = true ∧ seqInp l true (msOf MidState.empty K1) K2 = true

theorem seqInp_leaf (l : Ledger) (ms : MidState) (K : List Txn) (h : seqInp l true ms K = true)
    (k : Txn) (hk : k ∈ K) (i : Inp) (hi : i ∈ k.inputs) (lf : Nat) (hl : i.leaf = some lf) :
    l.leafOf i.elem = some lf ∧ i.bad = false := by
  obtain ⟨pre, post, rfl⟩ := List.append_of_mem hk
  rw [seqInp_append, seqInp, Bool.and_eq_true, Bool.and_eq_true] at h
  exact ((inpRes_confirmed _ _ hl).1 (((inputsOk_iff l _ true k.inputs _).1 h.2.1).2.1 i hi)).symm

/-! ## one mid-state permitting what another permits -/

/-- `m'` permits what `m` permits: what `m` has created, `m'` has created or `G` provides
otherwise; of the elements `Z`, `m'` has spent only what `m` has spent -/
structure Dom (Z G : Nat → Prop) (m m' : MidState) : Prop where
  created : ∀ e, e ∈ m.created → e ∈ m'.created ∨ G e
  spent : ∀ e, Z e → e ∈ m'.spent → e ∈ m.spent

theorem Dom.refl {Z G : Nat → Prop} {m : MidState} : Dom Z G m m :=
  ⟨fun _ h => .inl h, fun _ _ h => h⟩

theorem Dom.step {Z G : Nat → Prop} {m m' : MidState} (h : Dom Z G m m') {t t' : Txn}
    (hi : t'.inputs.map (·.elem) = t.inputs.map (·.elem)) (ho : t'.outputs = t.outputs) :
    Dom Z G (applyTx m t) (applyTx m' t') :=
  ⟨fun e he => (mem_applyTx_created.1 he).elim (fun h' => .inl (mem_applyTx_created.2 (.inl (ho ▸ h'))))
      fun h' => (h.created e h').imp_left fun h'' => mem_applyTx_created.2 (.inr h''),
    fun e hz he => mem_applyTx_spent.2 ((mem_applyTx_spent.1 he).imp (hi ▸ id) (h.spent e hz))⟩

theorem Dom.drop {Z G : Nat → Prop} {m m' : MidState} (h : Dom Z G m m') {t : Txn} (ho : ∀ o ∈ t.outputs, G o) :
    Dom Z G (applyTx m t) m' :=
  ⟨fun e he => (mem_applyTx_created.1 he).elim (fun h' => .inr (ho e h')) (h.created e),
    fun e hz he => mem_applyTx_spent.2 (.inr (h.spent e hz he))⟩

theorem Dom.other {Z G : Nat → Prop} {m m' : MidState} (h : Dom Z G m m') {x : Txn} (hx : ∀ i ∈ x.inputs, ¬ Z i.elem) :
    Dom Z G m (applyTx m' x) :=
  ⟨fun e he => (h.created e he).imp_left fun h' => mem_applyTx_created.2 (.inr h'),
    fun e hz he => (mem_applyTx_spent.1 he).elim
      (fun h' => by obtain ⟨i, hi, rfl⟩ := List.mem_map.1 h'; exact absurd hz (hx i hi)) (h.spent e hz)⟩

/-- the input `i`, resolved on `l` over some created elements, is resolved as `i'` on `l'` over
any created elements that contain the former up to what `G` provides -/
def Carries (l l' : Ledger) (v : Bool) (G : Nat → Prop) (i i' : Inp) : Prop :=
  ∀ co cn : List Nat, (∀ e, e ∈ co → e ∈ cn ∨ G e) → inpRes l co v i = true → inpRes l' cn v i' = true

theorem Carries.of_transfer {l l' : Ledger} {v : Bool} {G : Nat → Prop} {i : Inp}
    (hl : ∀ lf, l.leafOf i.elem = some lf → l'.leafOf i.elem = some lf) (hg : ¬ G i.elem) : Carries l l' v G i i := by
  intro co cn hc h
  have hcr : i.elem ∈ co → i.elem ∈ cn := fun hm => (hc _ hm).resolve_right hg
  cases v
  · rw [inpRes_v1] at h ⊢
    refine h.imp hcr fun h => ?_
    obtain ⟨lf, hlf⟩ := Option.isSome_iff_exists.1 h
    rw [hl lf hlf]; rfl
  · cases hi : i.leaf with
    | none => rw [inpRes_ephemeral _ _ hi] at h ⊢; exact hcr h
    | some lf => rw [inpRes_confirmed _ _ hi] at h ⊢; exact ⟨h.1, hl lf h.2⟩

/-- a v1 input the block does not spend still resolves: in the mid-state, or in the new ledger if
the block created it in place of a confirmed member -/
theorem Carries.apply_v1 (l : Ledger) (b : Blk) (i : Inp) (hs : i.elem ∉ ids b.spent) :
    Carries l (l.apply b) false (fun e => (b.created.lookup e).isSome = true) i i := by
  intro co cn hc h
  rw [inpRes_v1] at h ⊢
  rw [leafOf_apply_of_not_spent l b hs, Option.isSome_or, Bool.or_eq_true]
  rcases h with h | h
  · exact (hc _ h).imp_right .inr
  · exact .inr (.inl h)

theorem Carries.apply_v2 (l : Ledger) (b : Blk) (hfresh : ∀ p ∈ b.created, l.leafOf p.1 = none)
    (i : Inp) (hs : i.elem ∉ ids b.spent) :
    Carries l (l.apply b) true (fun e => (b.created.lookup e).isSome = true) i (confirmInp b.created i) := by
  intro co cn hc h
  cases hl : i.leaf with
  | some lf =>
    rw [confirmInp_of_leaf hl]
    rw [inpRes_confirmed _ _ hl] at h ⊢
    exact ⟨h.1, leafOf_apply_kept l b h.2 hs⟩
  | none =>
    rw [inpRes_ephemeral _ _ hl] at h
    cases hc' : b.created.lookup i.elem with
    | some lf =>
      rw [confirmInp_of_lookup_some hl hc', inpRes_confirmed _ _ rfl]
      exact ⟨rfl, leafOf_apply_created l b (hfresh _ (lookup_some_mem hc')) hc' hs⟩
    | none =>
      rw [confirmInp_of_lookup_none hc', inpRes_ephemeral _ _ hl]
      exact (hc _ h).resolve_right fun h' : (b.created.lookup i.elem).isSome = true => by rw [hc'] at h'; cases h'

theorem Dom.inputsOk {Z G : Nat → Prop} {m m' : MidState} (h : Dom Z G m m') {l l' : Ledger} {v : Bool} {f : Inp → Inp}
    (hf : ∀ i, (f i).elem = i.elem) {is : List Inp} (hv : inputsOk l m.created v m.spent is = true)
    (hz : ∀ i ∈ is, Z i.elem) (hr : ∀ i ∈ is, Carries l l' v G i (f i)) :
    inputsOk l' m'.created v m'.spent (is.map f) = true := by
  obtain ⟨h1, h2, h3⟩ := (inputsOk_iff l _ v is _).1 hv
  refine (inputsOk_iff l' _ v _ _).2 ⟨?_, ?_, ?_⟩
  · exact List.forall_mem_map.2 fun i hi hm => h1 i hi (h.spent _ (hz i hi) (hf i ▸ hm))
  · exact List.forall_mem_map.2 fun i hi => hr i hi _ _ h.created (h2 i hi)
  · rwa [List.map_map, show is.map ((·.elem) ∘ f) = is.map (·.elem) from List.map_congr_left fun i _ => hf i]

/-- **carrying a self-valid sequence over**: going through a self-valid sequence `K` once with the
old ledger / mid-state and once with the new ones, dropping the members `keep` rejects and rewriting
the inputs of the others with `f`.  `G e` = "the element is now provided by the ledger instead of by
a dropped member". -/
theorem seqInp_carry (l l' : Ledger) (v : Bool) (keep : Txn → Bool) (f : Inp → Inp) (G : Nat → Prop)
    (hf : ∀ i, (f i).elem = i.elem) : ∀ (K : List Txn) (mo mn : MidState),
    Dom (fun _ => True) G mo mn → seqInp l v mo K = true →
    (∀ k ∈ K, keep k = true → ∀ i ∈ k.inputs, Carries l l' v G i (f i)) →
    (∀ k ∈ K, keep k = false → ∀ o ∈ k.outputs, G o) →
    seqInp l' v mn ((K.filter keep).map (mapInputs f)) = true ∧
    Dom (fun _ => True) G (msOf mo K) (msOf mn ((K.filter keep).map (mapInputs f)))
  | [], _, _, hd, _, _, _ => ⟨rfl, hd⟩
  | k :: K, mo, mn, hd, hv, hin, hout => by
    rw [seqInp, Bool.and_eq_true] at hv
    have hin' := fun k' hk' => hin k' (List.mem_cons_of_mem _ hk')
    have hout' := fun k' hk' => hout k' (List.mem_cons_of_mem _ hk')
    cases hkeep : keep k
    · rw [List.filter_cons_of_neg (by simp [hkeep])]
      exact seqInp_carry l l' v keep f G hf K _ mn (hd.drop (hout k List.mem_cons_self hkeep)) hv.2 hin' hout'
    · rw [List.filter_cons_of_pos hkeep, List.map_cons, seqInp, Bool.and_eq_true]
      obtain ⟨r1, r2⟩ := seqInp_carry l l' v keep f G hf K _ _ (hd.step (mapInputs_elems f hf k) rfl) hv.2 hin' hout'
      exact ⟨⟨hd.inputsOk hf hv.1 (fun _ _ => trivial) (hin k List.mem_cons_self hkeep), r1⟩, r2⟩

theorem map_mapInputs_ident (K : List Txn) : K.map (mapInputs fun i => i) = K :=
  (List.map_congr_left fun t _ => mapInputs_id t _ fun _ _ => rfl).trans (List.map_id' K)

theorem Robust.carry {l l' : Ledger} {K1 K2 : List Txn} (h : Robust l K1 K2) (k1 k2 : Txn → Bool) (f : Inp → Inp)
    (hf : ∀ i, (f i).elem = i.elem) (G : Nat → Prop)
    (hin1 : ∀ k ∈ K1, k1 k = true → ∀ i ∈ k.inputs, Carries l l' false G i i)
    (hin2 : ∀ k ∈ K2, k2 k = true → ∀ i ∈ k.inputs, Carries l l' true G i (f i))
    (hout1 : ∀ k ∈ K1, k1 k = false → ∀ o ∈ k.outputs, G o)
    (hout2 : ∀ k ∈ K2, k2 k = false → ∀ o ∈ k.outputs, G o) :
    Robust l' (K1.filter k1) ((K2.filter k2).map (mapInputs f)) := by
  obtain ⟨a1, a2⟩ := seqInp_carry l l' false k1 (fun i => i) G (fun _ => rfl) K1 _ _ .refl h.1 hin1 hout1
  rw [map_mapInputs_ident] at a1 a2
  exact ⟨a1, (seqInp_carry l l' true k2 f G hf K2 _ _ a2 h.2 hin2 hout2).1⟩

/-! ## one applied block, one reverted block -/

def conf1 (b : Blk) : List Nat := b.txns.map (·.id)
def conf2 (b : Blk) : List Nat := b.v2txns.map (·.id)
def keepA1 (b : Blk) (k : Txn) : Bool := !(conf1 b).contains k.id
def keepA2 (b : Blk) (k : Txn) : Bool := !(conf2 b).contains k.id
/-- what is left of the set after the block is applied -/
def carryA1 (b : Blk) (K1 : List Txn) : List Txn := K1.filter (keepA1 b)
def carryA2 (b : Blk) (K2 : List Txn) : List Txn := (K2.filter (keepA2 b)).map (mapInputs (confirmInp b.created))

/-- the side conditions for carrying the set `K1, K2` through the application of `b` on ledger
`l`.  The property's exceptions are `unspent*`: no input of a member that the block does not
confirm is spent by the block.  The rest is consistency of the block with the ledger and with the
members it confirms (their outputs are among the created elements). -/
structure AppOK (l : Ledger) (b : Blk) (K1 K2 : List Txn) : Prop where
  fresh : ∀ p ∈ b.created, l.leafOf p.1 = none
  unspent1 : ∀ k ∈ K1, keepA1 b k = true → ∀ i ∈ k.inputs, i.elem ∉ ids b.spent
  unspent2 : ∀ k ∈ K2, keepA2 b k = true → ∀ i ∈ k.inputs, i.elem ∉ ids b.spent
  out1 : ∀ k ∈ K1, keepA1 b k = false → ∀ o ∈ k.outputs, (b.created.lookup o).isSome = true
  out2 : ∀ k ∈ K2, keepA2 b k = false → ∀ o ∈ k.outputs, (b.created.lookup o).isSome = true
  leaves : ∀ e lf, l.leafOf e = some lf → lf < b.leavesAfter
  newLeaves : ∀ p ∈ b.created, p.2 < b.leavesAfter

/-- **one applied block**: what is left of a self-valid set is self-valid on the new ledger -/
theorem Robust.apply {l : Ledger} {K1 K2 : List Txn} (h : Robust l K1 K2) (b : Blk) (ok : AppOK l b K1 K2) :
    Robust (l.apply b) (carryA1 b K1) (carryA2 b K2) :=
  h.carry (keepA1 b) (keepA2 b) (confirmInp b.created) (confirmInp_elem b.created) _
    (fun k hk hkeep i hi => Carries.apply_v1 l b i (ok.unspent1 k hk hkeep i hi))
    (fun k hk hkeep i hi => Carries.apply_v2 l b ok.fresh i (ok.unspent2 k hk hkeep i hi)) ok.out1 ok.out2

theorem sublist_filter_of_all {α} {A B : List α} (P : α → Bool) (h : A.Sublist B) (hp : ∀ a ∈ A, P a = true) :
    A.Sublist (B.filter P) := by
  have := h.filter P
  rwa [List.filter_eq_self.2 hp] at this

theorem apply_sublist {l : Ledger} {K1 K2 : List Txn} (h : Robust l K1 K2) (b : Blk) (ok : AppOK l b K1 K2)
    (p : Pool) (hsub : K2.Sublist p.v2txns) : (carryA2 b K2).Sublist (applyPoolUpdate p b).v2txns := by
  refine sublist_filter_of_all _ ((List.filter_sublist.trans hsub).map _) (List.all_eq_true.1 (all_proofsOk.2 ?_))
  refine (forall_inputs_map _ (fun i => ∀ lf, i.leaf = some lf → lf < b.leavesAfter) _).2 fun k hk i hi lf hlf => ?_
  rcases confirmInp_leaf hlf with h' | ⟨_, hc⟩
  · exact ok.leaves _ _ (seqInp_leaf l _ K2 h.2 k (List.mem_filter.1 hk).1 i hi lf h').1
  · exact ok.newLeaves _ (lookup_some_mem hc)

/-- the side conditions for carrying the set through the reversal of `b`: the property's
exception is `kept` (the block created no input of a member: no creation is reverted); `leaves` is
consistency of the ledger with the block's parent state -/
structure RevOK (l : Ledger) (b : Blk) (K1 K2 : List Txn) : Prop where
  kept : ∀ k ∈ K1 ++ K2, ∀ i ∈ k.inputs, i.elem ∉ ids b.created
  leaves : ∀ e lf, l.leafOf e = some lf → e ∉ ids b.created → lf < b.leavesBefore

theorem filter_true_eq {α} (l : List α) : l.filter (fun _ => true) = l := List.filter_eq_self.2 (fun _ _ => rfl)

/-- **one reverted block**: the set stays self-valid as it is -/
theorem Robust.revert {l : Ledger} {K1 K2 : List Txn} (h : Robust l K1 K2) (b : Blk) (ok : RevOK l b K1 K2) :
    Robust (l.revert b) K1 K2 := by
  have hin : ∀ (v : Bool), ∀ k ∈ K1 ++ K2, ∀ i ∈ k.inputs, Carries l (l.revert b) v (fun _ => False) i i :=
    fun v k hk i hi => .of_transfer (fun lf hlf => leafOf_revert_kept l b hlf (ok.kept k hk i hi)) id
  have := h.carry (fun _ => true) (fun _ => true) (fun i => i) (fun _ => rfl) _
    (fun k hk _ => hin false k (List.mem_append_left _ hk)) (fun k hk _ => hin true k (List.mem_append_right _ hk))
    nofun nofun
  rwa [filter_true_eq, filter_true_eq, map_mapInputs_ident] at this

theorem revert_sublist {l : Ledger} {K1 K2 : List Txn} (h : Robust l K1 K2) (b : Blk) (ok : RevOK l b K1 K2)
    (p : Pool) (hsub : K2.Sublist p.v2txns) : K2.Sublist (revertPoolUpdate p b).v2txns := by
  have hkept := fun k hk => ok.kept k (List.mem_append_right K1 hk)
  have hmap : K2.map (mapInputs (unconfirmInp b.created)) = K2 :=
    (List.map_congr_left fun t ht => mapInputs_id t _ fun i hi =>
      unconfirmInp_id_of_not_created _ i (hkept t ht i hi)).trans (List.map_id' K2)
  refine sublist_filter_of_all _ (hmap ▸ hsub.map _) (List.all_eq_true.1 (all_proofsOk.2 fun k hk i hi lf hl => ?_))
  exact ok.leaves _ _ (seqInp_leaf l _ K2 h.2 k hk i hi lf hl).1 (hkept k hk i hi)

/-! ## the re-validation keeps the set -/

/-- `K` inside `P`, with what the re-validation needs of the other members of `P`: they spend nothing
of `Z` and none has the id of a member of `K` that comes after it -/
inductive Inter (Z : List Nat) : List Txn → List Txn → Prop
  | nil : Inter Z [] []
  | skip {x K P} : (∀ i ∈ x.inputs, i.elem ∉ Z) → (∀ k ∈ K, k.id ≠ x.id) → Inter Z K P → Inter Z K (x :: P)
  | take {x K P} : (∀ k ∈ K, k.id ≠ x.id) → Inter Z K P → Inter Z (x :: K) (x :: P)

theorem Inter.of_avoid {Z : List Nat} : ∀ {R : List Txn}, (∀ x ∈ R, ∀ i ∈ x.inputs, i.elem ∉ Z) → Inter Z [] R
  | [], _ => .nil
  | x :: _, h => .skip (h x List.mem_cons_self) nofun (of_avoid fun y hy => h y (List.mem_cons_of_mem _ hy))

theorem Inter.append {Z : List Nat} {K P R : List Txn} (h : Inter Z K P) (hR : Inter Z [] R) : Inter Z K (P ++ R) := by
  induction h with
  | nil => exact hR
  | skip h1 h2 _ ih => exact .skip h1 h2 ih
  | take h1 _ ih => exact .take h1 ih

theorem Inter.of_sublist {Z : List Nat} {K P : List Txn} (hs : K.Sublist P) : (P.map (·.id)).Nodup →
    (∀ x ∈ P, x ∉ K → ∀ i ∈ x.inputs, i.elem ∉ Z) → Inter Z K P := by
  induction hs with
  | slnil => exact fun _ _ => .nil
  | @cons K P x hs ih =>
    intro hnd hdis
    rw [List.map_cons, List.nodup_cons] at hnd
    have hne : ∀ k ∈ K, k.id ≠ x.id := fun k hk e => hnd.1 (e ▸ List.mem_map_of_mem (hs.subset hk))
    exact .skip (hdis x List.mem_cons_self fun hm => hne x hm rfl) hne
      (ih hnd.2 fun y hy => hdis y (List.mem_cons_of_mem _ hy))
  | @cons_cons K P x hs ih =>
    intro hnd hdis
    rw [List.map_cons, List.nodup_cons] at hnd
    have hne : ∀ k ∈ P, k.id ≠ x.id := fun k hk e => hnd.1 (e ▸ List.mem_map_of_mem hk)
    exact .take (fun k hk => hne k (hs.subset hk)) (ih hnd.2 fun y hy hyK =>
      hdis y (List.mem_cons_of_mem _ hy) fun hm => (List.mem_cons.1 hm).elim (fun e => hne y hy (e ▸ rfl)) hyK)

theorem refillStep_other (cfg : Cfg) (l : Ledger) (v : Bool) {Z G : Nat → Prop} {mk : MidState} (a : Acc) (x : Txn)
    (hd : Dom Z G mk a.ms) (hx : ∀ i ∈ x.inputs, ¬ Z i.elem) :
    (∃ r0, (refillStep cfg l v a x).kept = a.kept ++ r0) ∧ Dom Z G mk (refillStep cfg l v a x).ms ∧
    ∀ id, id ≠ x.id → (refillStep cfg l v a x).idx id = a.idx id := by
  unfold refillStep
  split
  · exact ⟨⟨[], (List.append_nil _).symm⟩, hd, fun _ _ => rfl⟩
  · split
    · exact ⟨⟨[x], rfl⟩, hd.other hx, fun id hid => upd_other _ _ _ _ hid⟩
    · exact ⟨⟨[], (List.append_nil _).symm⟩, hd, fun _ _ => rfl⟩

/-- re-validating a list `P` that contains the self-valid sequence `K` (`Inter`): all of `K` is kept,
in order, since nothing else that is accepted spends a protected element (`Z`, which contains every
element `K` spends) -/
theorem refill_inter (cfg : Cfg) (l : Ledger) (v : Bool) (Z : List Nat) {K P : List Txn} (h : Inter Z K P) :
    ∀ (a : Acc) (mk : MidState), seqInp l v mk K = true → (∀ k ∈ K, rulesOk cfg l v k = true) →
    Dom (· ∈ Z) (fun _ => False) mk a.ms → (∀ e ∈ spentOf K, e ∈ Z) → (∀ k ∈ K, a.idx k.id = none) →
    ∃ rest, (refill cfg l v a P).kept = a.kept ++ rest ∧ K.Sublist rest ∧
      Dom (· ∈ Z) (fun _ => False) (msOf mk K) (refill cfg l v a P).ms := by
  induction h with
  | nil => exact fun a mk _ _ hd _ _ => ⟨[], (List.append_nil _).symm, .slnil, hd⟩
  | @skip x K P hx hne _ ih =>
    intro a mk hv hr hd hz hidx
    obtain ⟨⟨r0, h0⟩, hd', hi'⟩ := refillStep_other cfg l v a x hd hx
    obtain ⟨rest, h1, h2, h3⟩ := ih _ mk hv hr hd' hz fun k hk => by rw [hi' _ (hne k hk), hidx k hk]
    exact ⟨r0 ++ rest, by rw [refill, h1, h0, List.append_assoc], h2.trans (List.sublist_append_right _ _), h3⟩
  | @take x K P hne _ ih =>
    intro a mk hv hr hd hz hidx
    rw [seqInp, Bool.and_eq_true] at hv
    -- `x` is the next member: it is accepted
    have hval : txValid cfg l a.ms v x = true := by
      have := hd.inputsOk (f := id) (fun _ => rfl) hv.1
        (fun i hi => hz _ (by rw [spentOf_cons]; exact List.mem_append_left _ (List.mem_map_of_mem hi)))
        fun i _ => .of_transfer (fun _ h => h) id
      rw [List.map_id] at this
      rw [txValid_split, hr x List.mem_cons_self, this]
      rfl
    have hstep : refillStep cfg l v a x = push a x := by
      simp [refillStep, hidx x List.mem_cons_self, hval]
    obtain ⟨rest, h1, h2, h3⟩ := ih (push a x) (applyTx mk x) hv.2 (fun k hk => hr k (List.mem_cons_of_mem _ hk))
      (hd.step rfl rfl) (fun e he => hz e (by rw [spentOf_cons]; exact List.mem_append_right _ he))
      fun k hk => by rw [push_idx, upd_other _ _ _ _ (hne k hk), hidx k (List.mem_cons_of_mem _ hk)]
    rw [refill, hstep]
    exact ⟨x :: rest, by rw [h1, push_kept, List.append_assoc]; rfl, h2.cons_cons _, h3⟩

/-- re-validating a list `P` without repeated ids keeps, in order, a self-valid sub-sequence `K`,
provided no other member of `P` spends an element of `Z` (which contains every element `K` spends) -/
theorem refill_retains (cfg : Cfg) (l : Ledger) (v : Bool) (Z : List Nat) : ∀ (P K : List Txn) (a : Acc) (mk : MidState),
    K.Sublist P → (P.map (·.id)).Nodup →
    seqInp l v mk K = true → (∀ k ∈ K, rulesOk cfg l v k = true) →
    (∀ e, e ∈ mk.created → e ∈ a.ms.created) →
    (∀ e ∈ Z, e ∈ a.ms.spent → e ∈ mk.spent) →
    (∀ e ∈ spentOf K, e ∈ Z) →
    (∀ x ∈ P, x ∉ K → ∀ i ∈ x.inputs, i.elem ∉ Z) →
    (∀ k ∈ K, a.idx k.id = none) →
    ∃ rest, (refill cfg l v a P).kept = a.kept ++ rest ∧ K.Sublist rest ∧
      (∀ e, e ∈ (msOf mk K).created → e ∈ (refill cfg l v a P).ms.created) ∧
      (∀ e ∈ Z, e ∈ (refill cfg l v a P).ms.spent → e ∈ (msOf mk K).spent) :=
  fun P K a mk hsub hnd hv hr hc hs hz hdis hidx => by
    obtain ⟨rest, h1, h2, h3⟩ := refill_inter cfg l v Z (.of_sublist hsub hnd hdis) a mk hv hr
      ⟨fun e he => .inl (hc e he), hs⟩ hz hidx
    exact ⟨rest, h1, h2, fun e he => (h3.created e he).resolve_right id, h3.spent⟩

/-- the side conditions of the re-validation for a set `K1, K2` inside pool `p` -/
structure RebuildOK (cfg : Cfg) (S : Nat → Bool × List Nat × List Nat) (p : Pool) (K1 K2 : List Txn) : Prop where
  conf : PoolConf S p
  sub1 : K1.Sublist p.txns
  sub2 : K2.Sublist p.v2txns
  robust : Robust p.led K1 K2
  rules1 : ∀ k ∈ K1, rulesOk cfg p.led false k = true
  rules2 : ∀ k ∈ K2, rulesOk cfg p.led true k = true
  nodup1 : (p.txns.map (·.id)).Nodup
  nodup2 : (p.v2txns.map (·.id)).Nodup
  /-- nothing else in the pool spends what the set spends -/
  others1 : ∀ x ∈ p.txns, x ∉ K1 → ∀ i ∈ x.inputs, i.elem ∉ spentOf (K1 ++ K2)
  others2 : ∀ x ∈ p.v2txns, x ∉ K2 → ∀ i ∈ x.inputs, i.elem ∉ spentOf (K1 ++ K2)
  /-- nor does a remembered transaction of a reverted tip -/
  reoffer : ∀ w ∈ p.lastReverted ++ p.lastRevertedV2, ∀ i ∈ w.inputs, i.elem ∉ spentOf (K1 ++ K2)

/-- **the re-validation keeps the whole set**, in order: each pass goes over a pool slice with its
part of the set inside, then over re-offered transactions that spend nothing the set spends -/
theorem rebuild_retains (cfg : Cfg) (S : Nat → Bool × List Nat × List Nat) (p : Pool) (K1 K2 : List Txn)
    (h : RebuildOK cfg S p K1 K2) :
    K1.Sublist (rebuild cfg p).txns ∧ K2.Sublist (rebuild cfg p).v2txns := by
  have hz : ∀ e, e ∈ spentOf K1 ∨ e ∈ spentOf K2 → e ∈ spentOf (K1 ++ K2) := fun e he => by
    rw [spentOf_append]; exact List.mem_append.2 he
  obtain ⟨r1, k1, s1, d1⟩ := refill_inter cfg p.led false (spentOf (K1 ++ K2))
    ((Inter.of_sublist h.sub1 h.nodup1 h.others1).append
      (.of_avoid fun w hw => h.reoffer w (List.mem_append_left _ hw)))
    ⟨MidState.empty, fun _ => none, 0, []⟩ MidState.empty h.robust.1 h.rules1 .refl (fun e he => hz e (.inl he))
    fun _ _ => rfl
  obtain ⟨r2, k2, s2, _⟩ := refill_inter cfg p.led true (spentOf (K1 ++ K2))
    ((Inter.of_sublist h.sub2 h.nodup2 h.others2).append
      (.of_avoid fun w hw => h.reoffer w (List.mem_append_right _ hw)))
    { refill cfg p.led false ⟨MidState.empty, fun _ => none, 0, []⟩ (p.txns ++ p.lastReverted) with kept := [] }
    (msOf MidState.empty K1) h.robust.2 h.rules2 d1 (fun e he => hz e (.inr he)) fun k hk => by
      -- the first pass indexed v1 transactions only, and ids tell the kind
      refine Option.not_isSome_iff_eq_none.1 fun hi => ?_
      obtain ⟨u, hu, e⟩ := List.mem_map.1
        ((refill_accIdx (other := []) _ _ ⟨by simp, by simp, by simp⟩).mem k.id hi)
      have cu : Conf S false u := (refill_kept_sub _ _ u hu).elim nofun fun h' =>
        (List.mem_append.1 h').elim (h.conf.t1 u) (h.conf.r1 u)
      exact Conf.kind_ne cu (h.conf.t2 k (h.sub2.subset hk)) e
  constructor
  · show K1.Sublist (refill _ _ _ _ _).kept
    rw [k1]
    exact s1.trans (List.sublist_append_right _ _)
  · show K2.Sublist (refill _ _ _ _ _).kept
    rw [k2]
    exact s2.trans (List.sublist_append_right _ _)

/-! ## list facts that survive the per-block updates -/

theorem spentOf_map_elems (f : Inp → Inp) (hf : ∀ i, (f i).elem = i.elem) (L : List Txn) :
    spentOf (L.map (mapInputs f)) = spentOf L := by
  induction L with
  | nil => rfl
  | cons t L ih => rw [List.map_cons, spentOf_cons, spentOf_cons, ih, mapInputs_elems f hf t]

theorem spentOf_sublist {A B : List Txn} (h : A.Sublist B) : (spentOf A).Sublist (spentOf B) := by
  induction h with
  | slnil => exact List.Sublist.slnil
  | cons a _ ih => rw [spentOf_cons]; exact ih.trans (List.sublist_append_right _ _)
  | cons_cons a _ ih => rw [spentOf_cons, spentOf_cons]; exact (List.Sublist.refl _).append ih

/-- in a list that spends nothing twice, a transaction outside a sub-sequence shares no input with it -/
theorem others_disjoint : ∀ {L K : List Txn}, K.Sublist L → (spentOf L).Nodup →
    ∀ x ∈ L, x ∉ K → ∀ i ∈ x.inputs, i.elem ∉ spentOf K
  | [], K, hs, _, x, hx, _, _, _ => by cases hx
  | y :: L, K, hs, hn, x, hx, hxK, i, hi => by
    rw [spentOf_cons, List.nodup_append] at hn
    obtain ⟨_, n2, n3⟩ := hn
    cases hs with
    | cons _ hs' =>
      rcases List.mem_cons.1 hx with rfl | hx'
      · intro hm
        exact n3 i.elem (List.mem_map_of_mem hi) i.elem ((spentOf_sublist hs').subset hm) rfl
      · exact others_disjoint hs' n2 x hx' hxK i hi
    | cons_cons _ hs' =>
      rename_i K'
      have hne : x ≠ y := fun e => hxK (e ▸ List.mem_cons_self)
      rcases List.mem_cons.1 hx with e | hx'
      · exact absurd e hne
      · rw [spentOf_cons]
        intro hm
        rcases List.mem_append.1 hm with hm | hm
        · exact n3 i.elem hm i.elem (mem_spentOf.2 ⟨x, hx', i, hi, rfl⟩) rfl
        · exact others_disjoint hs' n2 x hx' (fun h => hxK (List.mem_cons_of_mem _ h)) i hi hm

theorem Valid.spent_nodup {cfg : Cfg} {p : Pool} (h : Valid cfg p) : (spentOf (p.txns ++ p.v2txns)).Nodup := by
  obtain ⟨n1, _⟩ := seqValid_nodup cfg _ false _ _ h.v1
  obtain ⟨n2, d2⟩ := seqValid_nodup cfg _ true _ _ h.v2
  rw [spentOf_append, List.nodup_append]
  refine ⟨n1, n2, ?_⟩
  intro a ha b hb hab
  subst hab
  exact d2 a hb ((mem_empty_msOf_spent _ _).2 ha)

/-- facts about the two slices that the per-block updates preserve -/
structure ListsOK (p : Pool) : Prop where
  nodup1 : (p.txns.map (·.id)).Nodup
  nodup2 : (p.v2txns.map (·.id)).Nodup
  spent : (spentOf (p.txns ++ p.v2txns)).Nodup

theorem ListsOK.congr {p p' : Pool} (h : ListsOK p) (h1 : p'.txns = p.txns) (h2 : p'.v2txns = p.v2txns) : ListsOK p' :=
  ⟨h1 ▸ h.nodup1, h2 ▸ h.nodup2, by rw [h1, h2]; exact h.spent⟩

theorem ListsOK.of_good {cfg : Cfg} {p : Pool} (hi : IdxOK p) (hv : Valid cfg p) : ListsOK p :=
  ⟨hi.nodup1, hi.nodup2, hv.spent_nodup⟩

theorem listsOK_update (p : Pool) (f : Inp → Inp) (hf : ∀ i, (f i).elem = i.elem) (P : Txn → Bool) (h : ListsOK p)
    (p' : Pool) (h1 : p'.txns = p.txns) (h2 : p'.v2txns = (p.v2txns.map (mapInputs f)).filter P) : ListsOK p' := by
  refine ⟨h1 ▸ h.nodup1, ?_, ?_⟩
  · have := (List.filter_sublist (p := P) (l := p.v2txns.map (mapInputs f))).map (·.id)
    rw [List.map_map] at this
    exact h2 ▸ h.nodup2.sublist this
  · have := h.spent
    rw [spentOf_append] at this
    rw [h1, h2, spentOf_append]
    refine this.sublist (List.Sublist.append (List.Sublist.refl _) ?_)
    rw [← spentOf_map_elems f hf p.v2txns]
    exact spentOf_sublist List.filter_sublist

end Verif.Pool
