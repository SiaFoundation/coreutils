/-
REGENERATED by harness/srcfacts (conc.go) from /repo on every run — do not edit.
Ordered synchronisation skeletons of the functions C18 is anchored in, and the decidable
obligations that the atomic steps of Verif/Model/Conc.lean are the ones in the source.
-/
namespace Verif.Extracted.ConcFacts

/-- (function, ordered tokens) -/
def fns : List (String × List String) := [
  ("ThreadGroup.Add", ["call tg.mu.Lock", "defer call tg.mu.Unlock", "select{", "case", "recv tg.closed", "event tg.add", "return", "default", "}", "call tg.wg.Add", "event tg.add", "func{", "event tg.done", "call tg.wg.Done", "}", "return"]),
  ("ThreadGroup.Stop", ["call tg.mu.Lock", "select{", "case", "recv tg.closed", "event tg.stop", "default", "event tg.stop", "close tg.closed", "}", "call tg.mu.Unlock", "call tg.wg.Wait", "event tg.stopped"]),
  ("Syncer.addPeer", ["call s.pm.AddPeer", "call fmt.Errorf", "return", "call s.pm.UpdatePeerInfo", "func{", "call time.Now", "}", "call fmt.Errorf", "return", "call s.mu.Lock", "defer call s.mu.Unlock", "range s.peers", "event s.addpeer.rej", "call errors.New", "return", "index s.peers", "event s.addpeer", "event s.peer.add", "return"]),
  ("Syncer.acquireInflight", ["event s.sub.off", "return", "call s.inflightMu.Lock", "defer call s.inflightMu.Unlock", "index s.inflightSubnet", "event s.sub.rej", "return", "index s.inflightSubnet", "event s.sub.acq", "return"]),
  ("Syncer.releaseInflight", ["event s.sub.reloff", "return", "call s.inflightMu.Lock", "defer call s.inflightMu.Unlock", "index s.inflightSubnet", "index s.inflightSubnet", "delete s.inflightSubnet", "event s.sub.rel"]),
  ("Syncer.runPeer", ["defer{", "call p.Close", "call s.mu.Lock", "delete s.peers", "event s.rmpeer", "event s.peer.rm", "call s.mu.Unlock", "call s.peerRemoved.Broadcast", "}", "call s.tg.Add", "event s.peer.refused", "return", "defer call done", "event s.peer.run", "call make", "defer close stopped", "go{", "select{", "case", "recv s.tg.Done()", "event s.peer.watch", "call p.Close", "case", "recv stopped", "}", "}", "call s.subnetKey", "call make", "for{", "call p.Err", "return", "call p.acceptRPC", "call p.setErr", "return", "event s.slot.want", "select{", "case", "send inflight", "event s.slot.take", "case", "recv s.tg.Done()", "event s.slot.closed", "return", "}", "call s.acquireInflight", "event s.slot.ret", "recv inflight", "call stream.Close", "call s.log.Debug", "call zap.Stringer", "call zap.Stringer", "call zap.String", "call zap.Int", "continue", "go{", "event s.h.start", "defer{", "recv inflight", "}", "defer event s.slot.ret", "defer call s.releaseInflight", "call s.tg.Add", "return", "defer call done", "defer call stream.Close", "call stream.SetDeadline", "call time.Now().Add", "call s.log.Debug", "call zap.Error", "call s.handleRPC", "call s.log.Debug", "call zap.Stringer", "call zap.Stringer", "call zap.Error", "}", "}"]),
  ("Syncer.allowConnect", ["call s.mu.Lock", "defer call s.mu.Unlock", "call s.tg.Add", "return", "defer call done", "call net.SplitHostPort", "call fmt.Errorf", "return", "call (&net.Resolver{}).LookupIPAddr", "call fmt.Errorf", "return", "call len", "call fmt.Errorf", "return", "range addrs", "call s.pm.Banned", "call addr.String", "return", "return", "range s.peers", "event s.allow.rej", "call errors.New", "return", "event s.allow.rej", "call errors.New", "return", "event s.allow.ok", "return"]),
  ("Syncer.withPeers", ["call s.mu.Lock", "call slices.Collect", "call maps.Values", "call s.mu.Unlock", "call make", "call len", "range peers", "continue", "go{", "call s.tg.Add", "send errCh", "return", "defer call done", "call fn", "send errCh", "}", "return", "for{", "recv errCh", "return", "}", "return"]),
  ("Syncer.Run", ["call s.tg.AddContext", "call context.Background", "return", "defer call done", "event s.run.start", "call make", "range []func(context.Context) error{…}", "go{", "call s.tg.Add", "send errChan", "return", "event s.loop.start", "call fn", "send errChan", "call done", "}", "recv errChan", "event s.run.recv", "event s.run.lclose", "call s.l.Close", "call s.mu.Lock", "event s.run.sweep", "range s.peers", "call p.Close", "call s.mu.Unlock", "recv errChan", "event s.run.recv", "recv errChan", "event s.run.recv", "call s.mu.Lock", "for{", "call len", "call s.peerRemoved.Wait", "}", "event s.run.drained", "call s.mu.Unlock", "call errors.Is", "return", "return"]),
  ("Syncer.Close", ["event s.close.l", "call s.l.Close", "call s.tg.Stop", "return"]),
  ("Server.Close", ["call s.tg.Stop"]),
  ("Server.Serve", ["defer call t.Close", "for{", "call t.AcceptStream", "call errors.Is", "return", "call fmt.Errorf", "return", "call log.With", "call zap.String", "call hex.EncodeToString", "call frand.Bytes", "call log.Debug", "go{", "call s.tg.Add", "call log.Debug", "call rhp4.WriteResponse", "call stream.Close", "return", "defer call done", "defer{", "call stream.Close", "call log.Debug", "call zap.Error", "call log.Debug", "}", "call s.handleHostStream", "}", "}"]),
  ("SingleAddressWallet.Close", ["call sw.tg.Stop", "return"])
]

def toks (f : String) : List String := (fns.lookup f).getD []

/-- every token of `targets` that occurs in `l` occurs while the mutex is held: after a
`lock` token and before the next `unlock` token (a deferred unlock holds to the end), and each
target occurs at least once -/
def heldScan (lock unlock : String) (targets : List String) : Bool → List String → Bool
  | _, [] => true
  | held, t :: ts =>
    if t = lock then heldScan lock unlock targets true ts
    else if t = unlock then heldScan lock unlock targets false ts
    else if targets.contains t && !held then false
    else heldScan lock unlock targets held ts

def under (f lock unlock : String) (targets : List String) : Bool :=
  heldScan lock unlock targets false (toks f) && targets.all (toks f).contains

def idxOf (t : String) (l : List String) : Nat := l.findIdx (· = t)

/-- `a` occurs, and before the first `b` (which occurs too) -/
def before (f a b : String) : Bool :=
  let l := toks f
  l.contains a && l.contains b && idxOf a l < idxOf b l

def has (f a : String) : Bool := (toks f).contains a

/-- how often `t` occurs after the first `a` and before the next `b` -/
def countBetween (f a b t : String) : Nat :=
  ((((toks f).dropWhile (· ≠ a)).drop 1).takeWhile (· ≠ b)).count t

/-- every occurrence of `a` in `f` is directly preceded by `b`, and `a` occurs -/
def precededByL (a b : String) : List String → Bool
  | x :: y :: rest => (y != a || x == b) && precededByL a b (y :: rest)
  | _ => true

def precededBy (f a b : String) : Bool :=
  let l := toks f
  l.contains a && l.head? != some a && precededByL a b l

/-- in the part of `f` that starts at the first `start`: `a` occurs, and before the first `b` -/
def beforeFrom (f start a b : String) : Bool :=
  let l := (toks f).dropWhile (· ≠ start)
  l.contains a && l.contains b && idxOf a l < idxOf b l

/-! ### ThreadGroup (model: TG.step) -/

/-- Add is ONE step: the closed test, wg.Add and the hook are under one acquisition of tg.mu -/
theorem tg_add_atomic : under "ThreadGroup.Add" "call tg.mu.Lock" "call tg.mu.Unlock"
    ["recv tg.closed", "call tg.wg.Add", "event tg.add"] = true := by decide +kernel
/-- the done closure is wg.Done preceded by its hook (so the recorded order never shows a
Wait-return before the done that enabled it) -/
theorem tg_done_hook_first : before "ThreadGroup.Add" "event tg.done" "call tg.wg.Done" = true := by decide +kernel
/-- Stop closes under tg.mu, releases it, THEN waits (step stop / step ret) -/
theorem tg_stop_close_locked : under "ThreadGroup.Stop" "call tg.mu.Lock" "call tg.mu.Unlock"
    ["recv tg.closed", "close tg.closed", "event tg.stop"] = true := by decide +kernel
/-- the Stop hook is recorded BEFORE the closed channel becomes observable (channel readers are
not serialised by tg.mu; recorded order must not show an observer of the close before the close) -/
theorem tg_stop_hook_before_close :
    precededBy "ThreadGroup.Stop" "close tg.closed" "event tg.stop" = true := by decide +kernel
theorem tg_stop_waits_unlocked :
    (before "ThreadGroup.Stop" "call tg.mu.Unlock" "call tg.wg.Wait" &&
     before "ThreadGroup.Stop" "call tg.wg.Wait" "event tg.stopped") = true := by decide +kernel

/-! ### in-flight accounting (model: IF.step acq / relSub / take / relPeer …) -/

theorem acquire_atomic : under "Syncer.acquireInflight" "call s.inflightMu.Lock" "call s.inflightMu.Unlock"
    ["index s.inflightSubnet", "event s.sub.acq", "event s.sub.rej"] = true := by decide +kernel
theorem release_atomic : under "Syncer.releaseInflight" "call s.inflightMu.Lock" "call s.inflightMu.Unlock"
    ["index s.inflightSubnet", "delete s.inflightSubnet", "event s.sub.rel"] = true := by decide +kernel
/-- the per-peer slot is taken by a blocking send that can only be abandoned for tg.Done
(no default case: back-pressure, no reject transition) -/
theorem runPeer_take_blocks :
    (beforeFrom "Syncer.runPeer" "event s.slot.want" "send inflight" "recv s.tg.Done()" &&
     beforeFrom "Syncer.runPeer" "event s.slot.want" "recv s.tg.Done()" "call s.acquireInflight" &&
     !has "Syncer.runPeer" "default") = true := by decide +kernel
/-- over-budget path: the per-peer slot is given back before the loop continues -/
theorem runPeer_reject_returns_slot :
    (before "Syncer.runPeer" "call s.acquireInflight" "recv inflight" &&
     before "Syncer.runPeer" "recv inflight" "continue") = true := by decide +kernel
/-- between acquireInflight and the start of the handler there is exactly ONE way out of the loop
body, the over-budget branch (which holds no subnet slot): no path that has acquired the subnet
slot leaves without the handler, whose deferred calls release it -/
theorem runPeer_only_reject_exit_before_handler :
    (countBetween "Syncer.runPeer" "call s.acquireInflight" "event s.h.start" "continue" == 1 &&
     countBetween "Syncer.runPeer" "call s.acquireInflight" "event s.h.start" "return" == 0 &&
     countBetween "Syncer.runPeer" "call s.acquireInflight" "event s.h.start" "recv inflight" == 1) = true := by decide +kernel
/-- handler: both releases are deferred BEFORE tg.Add is attempted, so the exit
"thread group already closed" returns both slots; the subnet slot is released (deferred later,
hence run earlier) before the per-peer slot; the hook precedes the per-peer release -/
theorem handler_defers_cover_every_exit :
    (beforeFrom "Syncer.runPeer" "event s.h.start" "defer call s.releaseInflight" "call s.tg.Add" &&
     beforeFrom "Syncer.runPeer" "event s.h.start" "recv inflight" "defer call s.releaseInflight" &&
     beforeFrom "Syncer.runPeer" "event s.h.start" "defer event s.slot.ret" "defer call s.releaseInflight" &&
     beforeFrom "Syncer.runPeer" "event s.h.start" "call s.tg.Add" "call s.handleRPC" &&
     beforeFrom "Syncer.runPeer" "event s.h.start" "defer call done" "call s.handleRPC") = true := by decide +kernel
/-- runPeer's exit removes the peer under s.mu and closes its transport (repaired code: step
peerAdd-refused / watch of the teardown model) -/
theorem runPeer_exit_removes_locked : under "Syncer.runPeer" "call s.mu.Lock" "call s.mu.Unlock"
    ["delete s.peers", "event s.rmpeer"] = true := by decide +kernel
theorem runPeer_closes_peer :
    (before "Syncer.runPeer" "call p.Close" "delete s.peers" && has "Syncer.runPeer" "recv s.tg.Done()") = true := by decide +kernel

/-- withPeers: every relay goroutine joins the thread group itself, before it calls the relay
function, and leaves it when the relay ends (a broadcast returns at the first success; the other
relays go on and Close must wait for them) -/
theorem withPeers_registers_each_goroutine :
    (before "Syncer.withPeers" "go{" "call s.tg.Add" &&
     beforeFrom "Syncer.withPeers" "go{" "call s.tg.Add" "call fn" &&
     beforeFrom "Syncer.withPeers" "go{" "defer call done" "call fn") = true := by decide +kernel

/-! ### peer caps (model: Caps.step fixed := true) -/

/-- allowConnect counts and decides under s.mu (deferred unlock: held to the end) -/
theorem allow_atomic : under "Syncer.allowConnect" "call s.mu.Lock" "call s.mu.Unlock"
    ["range s.peers", "event s.allow.ok", "event s.allow.rej"] = true := by decide +kernel
/-- addPeer: the inbound re-count, the decision and the insert are under ONE acquisition of s.mu -/
theorem addPeer_atomic : under "Syncer.addPeer" "call s.mu.Lock" "call s.mu.Unlock"
    ["range s.peers", "index s.peers", "event s.addpeer", "event s.addpeer.rej"] = true := by decide +kernel

/-- addPeer: the peer store is consulted BEFORE the peer is inserted (and outside s.mu): an error of
the store leaves no entry in s.peers — nothing would ever remove it (runPeer only runs for a peer
that was added), Run's wait for the peer set to drain would never end -/
theorem addPeer_store_before_insert :
    (before "Syncer.addPeer" "call s.pm.AddPeer" "call s.mu.Lock" &&
     before "Syncer.addPeer" "call s.pm.UpdatePeerInfo" "call s.mu.Lock" &&
     before "Syncer.addPeer" "call s.pm.UpdatePeerInfo" "index s.peers") = true := by decide +kernel

/-! ### Close = Stop (models: Srv, TD) -/

theorem closes_stop_group :
    (has "Syncer.Close" "call s.tg.Stop" && before "Syncer.Close" "call s.l.Close" "call s.tg.Stop" &&
     has "Server.Close" "call s.tg.Stop" && has "SingleAddressWallet.Close" "call sw.tg.Stop") = true := by decide +kernel
/-- Serve: every stream goroutine joins the group before it handles the stream -/
theorem serve_joins_group :
    (before "Server.Serve" "go{" "call s.tg.Add" &&
     before "Server.Serve" "call s.tg.Add" "call s.handleHostStream" &&
     before "Server.Serve" "defer call done" "call s.handleHostStream") = true := by decide +kernel
/-- Run: the peers are closed once under s.mu after the listener is closed, and Run waits for the
peer set to drain under the same mutex (Cond.Wait) -/
theorem run_sweeps_locked : under "Syncer.Run" "call s.mu.Lock" "call s.mu.Unlock"
    ["call p.Close", "call s.peerRemoved.Wait"] = true := by decide +kernel
theorem run_closes_listener_first : before "Syncer.Run" "call s.l.Close" "call p.Close" = true := by decide +kernel

end Verif.Extracted.ConcFacts
