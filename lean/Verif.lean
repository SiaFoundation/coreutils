-- Root of the `Verif` library: models, lemmas and property theorems.
import Verif.Model.KV
import Verif.Lemmas.KV
import Verif.Lemmas.KVCache
import Verif.Model.KVFault
import Verif.Lemmas.KVFault
import Verif.Props.C17
import Verif.Model.Seed
import Verif.Lemmas.Seed
import Verif.Lemmas.SeedWordlist
import Verif.Props.C20
import Verif.Model.Chain
import Verif.Lemmas.Chain
import Verif.Lemmas.ChainKept
import Verif.Props.C01
import Verif.Lemmas.Updates
import Verif.Lemmas.Prune
import Verif.Props.C19
import Verif.Props.C04
import Verif.Model.Funding
import Verif.Lemmas.Funding
import Verif.Lemmas.WalletLock
import Verif.Props.C07
import Verif.Model.RhpClient
import Verif.Lemmas.RhpClient
import Verif.Props.C10
import Verif.Model.Pool
import Verif.Lemmas.Pool
import Verif.Props.C14
import Verif.Model.Sync
import Verif.Lemmas.Sync
import Verif.Model.SyncChain
import Verif.Lemmas.SyncChain
import Verif.Lemmas.SyncRound
import Verif.Props.C11
import Verif.Props.C12
import Verif.Lemmas.PoolValid
import Verif.Lemmas.PoolFrame
import Verif.Lemmas.PoolRebase
import Verif.Lemmas.PoolParents
import Verif.Lemmas.PoolRetain
import Verif.Lemmas.PoolHistory
import Verif.Lemmas.PoolWeight
import Verif.Props.C05
import Verif.Model.WalletLedger
import Verif.Lemmas.WalletLedger
import Verif.Props.C06
import Verif.Lemmas.PoolRebase
import Verif.Lemmas.PoolParents
import Verif.Props.C13
import Verif.Model.Conc
import Verif.Lemmas.Conc
import Verif.Props.C18
import Verif.Model.Formation
import Verif.Lemmas.Formation
import Verif.Extracted.FormationFacts
import Verif.Props.C16
import Verif.Model.Elements
import Verif.Lemmas.Elements
import Verif.Lemmas.ElementsTree
import Verif.Props.C02
import Verif.Model.Commit
import Verif.Model.Rhp
import Verif.Lemmas.Rhp
import Verif.Extracted.RhpHostFacts
import Verif.Props.C08
import Verif.Props.C09
import Verif.Props.C15
import Verif.Lemmas.Commit
import Verif.Props.C03
import Verif.Lemmas.UpdatesLedger
import Verif.Lemmas.Catchup
import Verif.Lemmas.SkelTok
import Verif.Lemmas.LockTab
import Verif.Model.Mutex
import Verif.Lemmas.Mutex
import Verif.Extracted.ChainSkel
import Verif.Props.C01Src
import Verif.Props.C03Src
import Verif.Props.C04Src
import Verif.Props.C05Src
import Verif.Props.C19Src
import Verif.Extracted.DBSkel
import Verif.Props.C17Src
import Verif.Lemmas.UpdatesPruned
import Verif.Lemmas.Ancestor
import Verif.Lemmas.ChainF
import Verif.Lemmas.ChainFF
import Verif.Lemmas.Listeners
import Verif.Lemmas.Adopt
import Verif.Props.C13Src
import Verif.Props.C14Src
